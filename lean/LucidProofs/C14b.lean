/-
  C14b — C14 (split spelling) with NO premise about the tokenizer left: the theorem speaks about the raw typed
  string `a ++ [sep] ++ b`, a title word cut at any point with one separator typed into the cut.

  `Lemmas/StableText2.lean` computes `tokenize_query (a ++ [sep] ++ b)` for `Stable` pieces `a`, `b` and a
  separator `sep` that is lower-case-fixed and occurs in no normalisation pattern; `C14_split_found_tokenized`
  (`C14.lean`) does the rest.
-/
import LucidProofs.C03b
import LucidProofs.Lemmas.StableText2

namespace Lucid

/-- **The tokenised form of a word typed with a separator inside.** For two `Stable` character lists `a`, `b`
    (non-empty, separator-free, letter/digit at both ends, lower-case-fixed, untouched by the language's
    normaliser) and one separator character `sep` that is its own lower-case form and occurs in no key of the
    compose / reduce tables, `tokenize_query (a ++ [sep] ++ b)` has exactly two words: `q0` (finished, characters
    `a`) and `q1` (unfinished, characters `b`), `q1` beginning one position after the end of `q0`; that position
    holds `sep`, with class `classOf E sep`. -/
theorem C14_split_query_shape (E : Env) (a : List Nat) (sep : Nat) (b : List Nat)
    (ha : Stable E a) (hb : Stable E b) (hsepS : isSepChar E.U E.K sep = true) (hlow : E.U.lower1 sep = sep)
    (hsepF : SepFreeTables E.T sep = true) :
    ∃ q0 q1, (tokenizeQuery Gen.srcProg E (a ++ [sep] ++ b)).words = [q0, q1] ∧
      q0.fin = true ∧ q1.fin = false ∧ q1.lo = q0.hi + 1 ∧
      wchars (tokenizeQuery Gen.srcProg E (a ++ [sep] ++ b)) q0 = a ∧
      wchars (tokenizeQuery Gen.srcProg E (a ++ [sep] ++ b)) q1 = b ∧
      (tokenizeQuery Gen.srcProg E (a ++ [sep] ++ b)).chars[q0.hi]? = some sep ∧
      (tokenizeQuery Gen.srcProg E (a ++ [sep] ++ b)).classes[q0.hi]? = some (classOf E sep) := by
  rw [List.append_assoc, List.singleton_append, tokenizeQuery_split E a sep b ha hb hsepS hlow hsepF]
  refine ⟨splitW0 E a, splitW1 E a b, rfl, rfl, rfl, rfl, wchars_splitText_0 E a sep b, wchars_splitText_1 E a sep b,
    getElem?_cut_sep a sep b, class_at_of_char_at _ E rfl _ _ (getElem?_cut_sep a sep b)⟩

/-- **C14 (split spelling) for the typed string.** What a user learns: in a store (reached from `Store::new` by any
    operations, titles added through `tokenize_record`) holding no more records than its limit, take a record and
    a word `w` of its tokenised title with at least three characters, cut anywhere into two non-empty pieces
    `a`, `b`. If both pieces are `Stable` (automatic for ASCII lower-case letters / digits) and `sep` is a separator
    character (whitespace, control or punctuation) that is its own lower-case form, occurs in no key of the
    language's normalisation tables and has no consonant/vowel class, then **searching for the raw string
    `a ++ [sep] ++ b`** returns the record — in every language, whatever else is stored. -/
theorem C14_split_typed_found (S : Sorter) (hS : SorterOK S) (E : Env)
    (hU : UnicodeFacts E.U E.K) (hT : TablesOK E.T = true) (hSt : StemHyp E)
    (hC : CostsOK E.K = true) (hJ : JoinNumsOK E.K = true) (hK : 1 ≤ E.K.sortFactor) (hP : 1 ≤ E.K.prepFactor)
    (order : List ScoreType) (ops : List StoreOp)
    (hops : ∀ id t rating, StoreOp.add id t rating ∈ ops → ∃ s, t = tokenizeRecord Gen.srcProg E s)
    (hlim : ((Store.new E.K).run S E.K order ops).records.length ≤ ((Store.new E.K).run S E.K order ops).limit)
    (ix : Nat) (r : Record) (hr : ((Store.new E.K).run S E.K order ops).records[ix]? = some r)
    (w : WordShape) (hw : w ∈ r.title.words) (hn : 3 ≤ w.len)
    (a b : List Nat) (hchars : wchars r.title w = a ++ b) (ha : Stable E a) (hb : Stable E b)
    (sep : Nat) (hsepS : isSepChar E.U E.K sep = true) (hlow : E.U.lower1 sep = sep)
    (hsepF : SepFreeTables E.T sep = true) (hsepT : getCharClass E.T sep = none) :
    ∃ res ∈ ((Store.new E.K).run S E.K order ops).search S E.K order (tokenizeQuery Gen.srcProg E (a ++ [sep] ++ b)),
      res.id = r.id ∧
      res = ((Store.new E.K).run S E.K order ops).render
              (scoreHit E.K order (tokenizeQuery Gen.srcProg E (a ++ [sep] ++ b)) r) := by
  obtain ⟨q0, q1, hws, _, _, hadj, hc0, hc1, hsep, _⟩ := C14_split_query_shape E a sep b ha hb hsepS hlow hsepF
  exact C14_split_found_tokenized S hS E hU hT hSt hC hJ hK hP order ops hops hlim ix r hr (a ++ [sep] ++ b) q0 q1
    (by rw [hws]; rfl) (by rw [hws]; rfl) hadj sep hsep hsepT w hw hn (by rw [hc0, hc1, hchars])

/-- `C14_split_typed_found` at the generated constants, step lists and score order, in every language. -/
theorem C14_split_typed_found_src (S : Sorter) (hS : SorterOK S)
    (U : Unicode) (T : LangTables) (stem : List Nat → Nat)
    (hU : UnicodeFacts U Gen.srcConsts) (hT : TablesOK T = true) (hSt : StemHyp (Gen.srcProg.env U T stem))
    (ops : List StoreOp)
    (hops : ∀ id t rating, StoreOp.add id t rating ∈ ops →
      ∃ s, t = tokenizeRecord Gen.srcProg (Gen.srcProg.env U T stem) s)
    (hlim : ((Store.new Gen.srcConsts).run S Gen.srcConsts Gen.srcScoreOrder ops).records.length
              ≤ ((Store.new Gen.srcConsts).run S Gen.srcConsts Gen.srcScoreOrder ops).limit)
    (ix : Nat) (r : Record)
    (hr : ((Store.new Gen.srcConsts).run S Gen.srcConsts Gen.srcScoreOrder ops).records[ix]? = some r)
    (w : WordShape) (hw : w ∈ r.title.words) (hn : 3 ≤ w.len)
    (a b : List Nat) (hchars : wchars r.title w = a ++ b)
    (ha : Stable (Gen.srcProg.env U T stem) a) (hb : Stable (Gen.srcProg.env U T stem) b)
    (sep : Nat) (hsepS : isSepChar U Gen.srcConsts sep = true) (hlow : U.lower1 sep = sep)
    (hsepF : SepFreeTables T sep = true) (hsepT : getCharClass T sep = none) :
    ∃ res ∈ ((Store.new Gen.srcConsts).run S Gen.srcConsts Gen.srcScoreOrder ops).search S Gen.srcConsts
        Gen.srcScoreOrder (tokenizeQuery Gen.srcProg (Gen.srcProg.env U T stem) (a ++ [sep] ++ b)),
      res.id = r.id ∧
      res = ((Store.new Gen.srcConsts).run S Gen.srcConsts Gen.srcScoreOrder ops).render
              (scoreHit Gen.srcConsts Gen.srcScoreOrder
                (tokenizeQuery Gen.srcProg (Gen.srcProg.env U T stem) (a ++ [sep] ++ b)) r) :=
  C14_split_typed_found S hS (Gen.srcProg.env U T stem) hU hT hSt costsOK_src joinNumsOK_src
    (show 1 ≤ Gen.srcConsts.sortFactor by decide) (show 1 ≤ Gen.srcConsts.prepFactor by decide) Gen.srcScoreOrder
    ops hops hlim ix r hr w hw hn a b hchars ha hb sep hsepS hlow hsepF hsepT

/-- **C14 (split spelling) for ASCII words and the space bar.** If a title word of at least three characters
    consists of ASCII lower-case letters or digits, typing it with ONE SPACE inserted at any inner position
    (`a ++ [32] ++ b`, both pieces non-empty) returns the record. Needed of the Unicode oracle beyond
    `UnicodeFacts`: the 36 facts of `AsciiFacts` and `SpaceFacts` (U+0020 is whitespace and lower-case-fixed);
    of the language: no pure-ASCII key (`AsciiFreeTables`) and the space in no key and without consonant/vowel
    class (`SpaceFreeTables`; `spaceFree_none` … `spaceFree_ru`: all seven generated languages). -/
theorem C14_split_ascii_found_src (S : Sorter) (hS : SorterOK S)
    (U : Unicode) (T : LangTables) (stem : List Nat → Nat)
    (hU : UnicodeFacts U Gen.srcConsts) (hA : AsciiFacts U) (hSp : SpaceFacts U) (hT : TablesOK T = true)
    (hF : AsciiFreeTables T = true) (hF2 : SpaceFreeTables T = true) (hSt : StemHyp (Gen.srcProg.env U T stem))
    (ops : List StoreOp)
    (hops : ∀ id t rating, StoreOp.add id t rating ∈ ops →
      ∃ s, t = tokenizeRecord Gen.srcProg (Gen.srcProg.env U T stem) s)
    (hlim : ((Store.new Gen.srcConsts).run S Gen.srcConsts Gen.srcScoreOrder ops).records.length
              ≤ ((Store.new Gen.srcConsts).run S Gen.srcConsts Gen.srcScoreOrder ops).limit)
    (ix : Nat) (r : Record)
    (hr : ((Store.new Gen.srcConsts).run S Gen.srcConsts Gen.srcScoreOrder ops).records[ix]? = some r)
    (w : WordShape) (hw : w ∈ r.title.words) (hn : 3 ≤ w.len)
    (a b : List Nat) (hchars : wchars r.title w = a ++ b) (hna : a ≠ []) (hnb : b ≠ [])
    (hascii : AsciiLower (wchars r.title w)) :
    ∃ res ∈ ((Store.new Gen.srcConsts).run S Gen.srcConsts Gen.srcScoreOrder ops).search S Gen.srcConsts
        Gen.srcScoreOrder (tokenizeQuery Gen.srcProg (Gen.srcProg.env U T stem) (a ++ [32] ++ b)),
      res.id = r.id ∧
      res = ((Store.new Gen.srcConsts).run S Gen.srcConsts Gen.srcScoreOrder ops).render
              (scoreHit Gen.srcConsts Gen.srcScoreOrder
                (tokenizeQuery Gen.srcProg (Gen.srcProg.env U T stem) (a ++ [32] ++ b)) r) := by
  simp only [SpaceFreeTables, Bool.and_eq_true, Option.isNone_iff_eq_none] at hF2
  rw [hchars] at hascii
  have haa : AsciiLower a := fun c hc => hascii c (List.mem_append_left _ hc)
  have hab : AsciiLower b := fun c hc => hascii c (List.mem_append_right _ hc)
  exact C14_split_typed_found_src S hS U T stem hU hT hSt ops hops hlim ix r hr w hw hn a b hchars
    (stable_of_asciiLower (Gen.srcProg.env U T stem) rfl hA hF a haa hna)
    (stable_of_asciiLower (Gen.srcProg.env U T stem) rfl hA hF b hab hnb)
    32 (hSp.sep _) hSp.space_lower hF2.1 hF2.2

/-! ### non-vacuity: the store of `C14Example` (title "Abc", English tables, toy oracle); "a bc" and "ab c" -/

namespace C14bExample
open C13Example C14Example

example (a b : List Nat) (hs : (a = [97] ∧ b = [98, 99]) ∨ (a = [97, 98] ∧ b = [99])) :
    ∃ res ∈ ((Store.new Gen.srcConsts).run exSorter Gen.srcConsts Gen.srcScoreOrder exOpsS).search exSorter
        Gen.srcConsts Gen.srcScoreOrder (tokenizeQuery Gen.srcProg exEnvE (a ++ [32] ++ b)), res.id = 7 := by
  have key := fun a b hchars hna hnb =>
    (C14_split_ascii_found_src exSorter exSorter_ok toyU Gen.lang_en toyStem toyU_facts toyU_asciiFacts
      toyU_spaceFacts tablesOK_en asciiFree_en spaceFree_en (toyStemHyp _ (by decide)) exOpsS exOpsS_ok
      (by decide : (1 : Nat) ≤ 10) 0
      { ix := 0, id := 7, title := tokenizeRecord Gen.srcProg exEnvE [65, 98, 99], rating := 1 }
      rfl
      { offset := 0, lo := 0, hi := 3, stem := 2, pos := none, fin := true } (by rw [exS_tok]; decide) (by decide)
      a b hchars hna hnb (by rw [exS_tok]; decide)).imp fun _ h => And.intro h.1 h.2.1
  rcases hs with ⟨rfl, rfl⟩ | ⟨rfl, rfl⟩
  · exact key [97] [98, 99] (by rw [exS_tok]; decide) (by decide) (by decide)
  · exact key [97, 98] [99] (by rw [exS_tok]; decide) (by decide) (by decide)

/-- the shape theorem on "ab cd" -/
example : ∃ q0 q1, (tokenizeQuery Gen.srcProg exEnvE ([97, 98] ++ [32] ++ [99, 100])).words = [q0, q1] ∧
    q0.fin = true ∧ q1.fin = false ∧ q1.lo = q0.hi + 1 := by
  obtain ⟨q0, q1, h1, h2, h3, h4, _⟩ := C14_split_query_shape exEnvE [97, 98] 32 [99, 100]
    (by decide +kernel) (by decide +kernel) (by decide +kernel) (by decide +kernel) (by decide +kernel)
  exact ⟨q0, q1, h1, h2, h3, h4⟩

end C14bExample

end Lucid
