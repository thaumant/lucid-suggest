/-
  C16b — the two reference distances that bracket the engine's word distance (C16: `DL.lev` above,
  `DL.DLunit` below) get their textbook meaning: each is the minimum cost of an edit script
  (`Lemmas/EditScripts.lean`), so the C16 bounds can be read without knowing the recurrences.

  * `DL.LevScript a b n`  — `a` becomes `b` by a script of `n` insertions / deletions / substitutions
                            (`DL.applyOps`, `DL.opsCost`: the same as executable operation lists);
  * `DL.DLScript a b n`   — scripts that may also transpose two characters across gaps (Lowrance–Wagner:
                            `y u x` ↦ `x v y` costs `|u| + |v| + 1`; adjacent transposition = cost 1).
  Distances of the engine are in tenths (0.5 = 5, 1.0 = 10).
-/
import LucidProofs.C16
import LucidProofs.Lemmas.EditScripts

namespace Lucid
open DL

/-- **`DL.lev` is the Levenshtein distance.** `lev a b |a| |b|` is the cost of some edit script of insertions,
    deletions and substitutions turning `a` into `b`, and no such script is cheaper. -/
theorem C16_lev_is_edit_distance (a b : List Nat) :
    LevScript a b (lev a b a.length b.length) ∧ ∀ n, LevScript a b n → lev a b a.length b.length ≤ n :=
  ⟨lev_complete a b, fun _ h => lev_sound h⟩

/-- **`DL.DLunit` is the unrestricted Damerau–Levenshtein distance.** `DLunit a b |a| |b|` is the cost of some
    edit script of insertions, deletions, substitutions and transpositions (adjacent, or across gaps at the price
    of the gaps) turning `a` into `b`, and no such script is cheaper. -/
theorem C16_damlev_is_edit_distance (a b : List Nat) :
    DLScript a b (DLunit a b a.length b.length) ∧ ∀ n, DLScript a b n → DLunit a b a.length b.length ≤ n :=
  ⟨dlunit_complete a b, fun _ h => dlunit_sound h⟩

/-- **Upper bound by ANY edit script.** Whatever sequence of `n` single-character insertions, deletions and
    substitutions turns one word into the other, the engine's distance (tenths) is at most `10 · n`: every
    elementary edit costs at most 1.0, and discounts / transpositions only make it cheaper. -/
theorem C16_le_levenshtein_scripts (K : Consts) (m : Mat) (hm : MInv m) (a b : CWord)
    (ha : Aligned a) (hb : Aligned b) (hca : CostLe a) (hcb : CostLe b)
    (n : Nat) (hs : LevScript a.ch b.ch n) :
    (distanceM K m a b).1 ≤ 10 * n := by
  have h1 := C16_le_levenshtein K m hm a b ha hb hca hcb
  have h2 : lev a.ch b.ch a.len b.len ≤ n := lev_sound hs
  omega

/-- The same for scripts given as executable operation lists: if running `ops` on the first word yields the
    second (`applyOps`), the engine's distance is at most `10 ·` the number of non-`keep` operations. -/
theorem C16_le_levenshtein_ops (K : Consts) (m : Mat) (hm : MInv m) (a b : CWord)
    (ha : Aligned a) (hb : Aligned b) (hca : CostLe a) (hcb : CostLe b)
    (ops : List EditOp) (hs : applyOps ops a.ch = some b.ch) :
    (distanceM K m a b).1 ≤ 10 * opsCost ops :=
  C16_le_levenshtein_scripts K m hm a b ha hb hca hcb _ (levScript_of_ops ops a.ch b.ch hs)

/-- **Lower bound by the cheapest script with transpositions.** There is a script of insertions, deletions,
    substitutions and transpositions turning one word into the other that is the cheapest of all such scripts
    and whose cost `n` satisfies `5 · n ≤` the engine's distance: no discount makes the engine's distance smaller
    than half the unrestricted Damerau–Levenshtein distance. -/
theorem C16_ge_half_damlev_scripts (K : Consts) (hK : CostsOK K = true) (m : Mat) (hm : MInv m) (a b : CWord)
    (ha : Aligned a) (hb : Aligned b) (hca : CostLe a) (hcb : CostLe b)
    (hpa : CostPos a) (hpb : CostPos b) (h5a : CostMul5 a) (h5b : CostMul5 b) :
    ∃ n, DLScript a.ch b.ch n ∧ (∀ n', DLScript a.ch b.ch n' → n ≤ n') ∧ 5 * n ≤ (distanceM K m a b).1 :=
  ⟨DLunit a.ch b.ch a.len b.len, dlunit_complete a.ch b.ch, fun _ h => dlunit_sound h,
    C16_ge_half_damlev K hK m hm a b ha hb hca hcb hpa hpb h5a h5b⟩

/-- Consequently: if the engine's distance is below `5 · n`, some script with transpositions of fewer than `n`
    operations (gaps counted) turns one word into the other. -/
theorem C16_small_distance_has_script (K : Consts) (hK : CostsOK K = true) (m : Mat) (hm : MInv m) (a b : CWord)
    (ha : Aligned a) (hb : Aligned b) (hca : CostLe a) (hcb : CostLe b)
    (hpa : CostPos a) (hpb : CostPos b) (h5a : CostMul5 a) (h5b : CostMul5 b)
    (n : Nat) (hd : (distanceM K m a b).1 < 5 * n) :
    ∃ k, k < n ∧ DLScript a.ch b.ch k := by
  obtain ⟨k, hk, _, hle⟩ := C16_ge_half_damlev_scripts K hK m hm a b ha hb hca hcb hpa hpb h5a h5b
  exact ⟨k, by omega, hk⟩

theorem C16_ge_half_damlev_scripts_src (m : Mat) (hm : MInv m) (a b : CWord)
    (ha : Aligned a) (hb : Aligned b) (hca : CostLe a) (hcb : CostLe b)
    (hpa : CostPos a) (hpb : CostPos b) (h5a : CostMul5 a) (h5b : CostMul5 b) :
    ∃ n, DLScript a.ch b.ch n ∧ (∀ n', DLScript a.ch b.ch n' → n ≤ n') ∧
      5 * n ≤ (distanceM Gen.srcConsts m a b).1 :=
  C16_ge_half_damlev_scripts Gen.srcConsts costsOK_src m hm a b ha hb hca hcb hpa hpb h5a h5b

/-! ### non-vacuity: "abca" vs "acba" (`exA`, `exB` of `C16.lean`) -/

-- two substitutions turn "abca" into "acba": the engine's distance is at most 2.0 (it is 0.5: one transposition)
example : applyOps [.keep, .sub 99, .sub 98, .keep] exA.ch = some exB.ch := by decide
example : (distanceM Gen.srcConsts (Mat.new 22) exA exB).1 ≤ 10 * 2 :=
  C16_le_levenshtein_ops _ _ (MInv_new 20).1 exA exB exA_ok.1 exB_ok.1 exA_ok.2.1 exB_ok.2.1
    [.keep, .sub 99, .sub 98, .keep] (by decide)
-- one adjacent transposition does it too: a script with transpositions of cost 1
example : DLScript exA.ch exB.ch 1 :=
  DLScript.keep 97 (DLScript.trans 99 98 [] [] (DLScript.keep 97 DLScript.nil))
example : ∃ n, DLScript exA.ch exB.ch n ∧ (∀ n', DLScript exA.ch exB.ch n' → n ≤ n') ∧
    5 * n ≤ (distanceM Gen.srcConsts (Mat.new (Gen.srcConsts.matCap + 2)) exA exB).1 :=
  C16_ge_half_damlev_scripts_src _ exM_ok exA exB exA_ok.1 exB_ok.1 exA_ok.2.1 exB_ok.2.1 exA_ok.2.2.1 exB_ok.2.2.1
    exA_ok.2.2.2 exB_ok.2.2.2

end Lucid
