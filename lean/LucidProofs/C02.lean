/-
  C02 — every hit carries the id of a stored record; its returned title is that record's (normalised) title
  `source` with NUL removed and the two markers inserted around word-aligned spans; nothing else is dropped,
  duplicated, reordered or altered; changing the markers changes nothing but the markers; no NUL in a title.
  Statements with short proofs; the lemmas live in `Lemmas/Highlight.lean`, `Lemmas/TextMatchShape.lean`, `C09.lean`.

  Not proved here but in C15.lean (`TokInv.source`; at the API: `C02_api_source`, API.lean):
  that `title.source` of a record added with title `s` is the language's composition of `s` (accent sequences
  composed, ligature expansions padded with NUL), i.e. that `stripNul r.title.source` is "the record's title with
  composable accent sequences composed and NUL dropped". The theorems below are about `r.title.source` as stored.
-/
import LucidModel.Gen.Consts
import LucidProofs.Lemmas.SearchGlue
import LucidProofs.C09

namespace Lucid

/-- a part of the store invariant (`StoreInv.ixPos`, `Lemmas/Store.lean`) -/
def RecordsIndexed (st : Store) : Prop := ∀ (ix : Nat) (r : Record), st.records[ix]? = some r → r.ix = ix

theorem result_of_mem_search {S : Sorter} (hS : SorterOK S) {K : Consts}
    {order : List ScoreType} {st : Store} {q : Text} {res : Result} (h : res ∈ st.search S K order q) :
    ∃ hit ∈ st.hitsOf K order q (st.candidatesM S K q).1, res = st.render hit := by
  simp only [Store.search, Store.searchM, List.mem_map] at h
  obtain ⟨hit, hmem, rfl⟩ := h
  exact ⟨hit, (hS.topK hitLe_preorder _ _ _).mem_of_mem hmem, rfl⟩

/-- **C02 (ids are real).** Every search result carries the id of a record of the store; more precisely it is
    the rendering of a hit whose `ix` is the position of that record, with that record's id and title. -/
theorem C02_id_real {S : Sorter} (hS : SorterOK S) {K : Consts} (hK : 1 ≤ K.sortFactor)
    (order : List ScoreType) (st : Store) (hst : RecordsIndexed st) (q : Text) :
    ∀ res ∈ st.search S K order q, ∃ r ∈ st.records, res.id = r.id ∧
      ∃ hit, res = st.render hit ∧ st.records[hit.ix]? = some r ∧ hit.id = r.id ∧ hit.title = r.title := by
  intro res hres
  obtain ⟨hit, hh, rfl⟩ := result_of_mem_search hS hres
  obtain ⟨ix, r, _, hr, rfl, _⟩ := hit_of_mem_hitsOf hh
  exact ⟨r, List.mem_of_getElem? hr, rfl, _, rfl, show st.records[r.ix]? = some r from (hst ix r hr).symm ▸ hr,
    rfl, rfl⟩

/-- **C02 (title = decorated source).** The returned title of every result is the NUL-stripped decoration of
    the `source` of a stored record's title (the record whose id the result carries) by the store's markers around
    spans that are well-formed (`SpansOK`: sorted, disjoint, non-empty, each the beginning of a distinct title word). -/
theorem C02_title_is_decorated_source {S : Sorter} (hS : SorterOK S) {K : Consts} (hK : 1 ≤ K.sortFactor)
    (order : List ScoreType) (st : Store) (q : Text) (H : HitsWF K st q) :
    ∀ res ∈ st.search S K order q, ∃ r ∈ st.records, ∃ spans, res.id = r.id ∧ SpansOK r.title spans ∧
      res.title = stripNul (decorate r.title.source spans st.dividers.1 st.dividers.2) := by
  intro res hres
  obtain ⟨hit, hh, rfl⟩ := result_of_mem_search hS hres
  have hsp := C09_spans_ok H _ hit hh
  have hbal := (C09_markup_balanced H _ hit hh).1
  obtain ⟨ix, r, _, hr, rfl, _⟩ := hit_of_mem_hitsOf hh
  exact ⟨r, List.mem_of_getElem? hr, _, rfl, hsp, hbal⟩

/-- **C02 (no markers ⇒ the title itself).** With empty markers every returned title is exactly the `source` of
    the record's title with NUL removed: highlighting drops, duplicates, reorders and alters nothing. -/
theorem C02_no_markers_gives_source {S : Sorter} (hS : SorterOK S) {K : Consts} (hK : 1 ≤ K.sortFactor)
    (order : List ScoreType) (st : Store) (q : Text) (H : HitsWF K st q) (hd : st.dividers = ([], [])) :
    ∀ res ∈ st.search S K order q, ∃ r ∈ st.records, res.id = r.id ∧ res.title = stripNul r.title.source := by
  intro res hres
  obtain ⟨hit, hh, rfl⟩ := result_of_mem_search hS hres
  obtain ⟨h1, _, h3, _⟩ := C09_markup_balanced H _ hit hh
  obtain ⟨ix, r, _, hr, rfl, _⟩ := hit_of_mem_hitsOf hh
  refine ⟨r, List.mem_of_getElem? hr, rfl, ?_⟩
  rw [h1, hd, decorate_nil _ h3]; rfl

theorem search_setDividers (S : Sorter) (K : Consts) (order : List ScoreType) (st : Store) (q : Text) (l r : List Nat) :
    (st.setDividers l r).search S K order q =
      (limitSort (S.sort hitLe) K.sortFactor st.limit (st.hitsOf K order q (st.candidatesM S K q).1)).map
        (fun h => { id := h.id, title := highlight h l r }) := by
  simp only [Store.search, Store.searchM, candidatesM_setDividers]
  rfl

/-- **C02 (markers only change markers).** There is one list of hits, with one list of spans per hit, both
    independent of the markers, such that for *every* pair of markers `(dl, dr)` the search on the store
    configured with these markers returns, hit by hit, the same id and the title
    `decorate (NUL-free source) spans (NUL-free dl) (NUL-free dr)`; deleting the inserted markers by position
    (`unmark`) from that title gives back the NUL-free source, whatever the markers. So two marker pairs give
    titles that differ in nothing but the inserted markers. -/
theorem C02_markers_only_change_markers {S : Sorter} (hS : SorterOK S) {K : Consts} (hK : 1 ≤ K.sortFactor)
    (order : List ScoreType) (st : Store) (q : Text) (H : HitsWF K st q) :
    ∃ hits : List (Hit × List (Nat × Nat)),
      (∀ p ∈ hits, ∃ r ∈ st.records, p.1.id = r.id ∧ p.1.title = r.title ∧ SpansFrom 0 p.2 ∧
          SpansIn (stripNul r.title.source).length p.2) ∧
      ∀ dl dr : List Nat,
        (st.setDividers dl dr).search S K order q =
          hits.map (fun p => { id := p.1.id,
                               title := decorate (stripNul p.1.title.source) p.2 (stripNul dl) (stripNul dr) }) ∧
        ∀ p ∈ hits, unmark (stripNul dl).length (stripNul dr).length p.2
            (decorate (stripNul p.1.title.source) p.2 (stripNul dl) (stripNul dr)) = stripNul p.1.title.source := by
  let top := limitSort (S.sort hitLe) K.sortFactor st.limit (st.hitsOf K order q (st.candidatesM S K q).1)
  have htop : ∀ h ∈ top, h ∈ st.hitsOf K order q (st.candidatesM S K q).1 :=
    fun _ hmem => (hS.topK hitLe_preorder _ _ _).mem_of_mem hmem
  have hgood := fun h hmem => highlight_eq_decorate H (htop h hmem)
  refine ⟨top.map (fun h => (h, nulSpans h.title.source (hitSpans h))), ?_, fun dl dr => ⟨?_, ?_⟩⟩
  · intro p hp
    obtain ⟨h, hmem, rfl⟩ := List.mem_map.mp hp
    obtain ⟨ix, r, _, hr, rfl, _⟩ := hit_of_mem_hitsOf (htop h hmem)
    exact ⟨r, List.mem_of_getElem? hr, rfl, rfl, (hgood _ hmem).1⟩
  · rw [search_setDividers, List.map_map]
    exact List.map_congr_left fun h hmem => by simp only [Function.comp, (hgood h hmem).2 dl dr]
  · intro p hp
    obtain ⟨h, hmem, rfl⟩ := List.mem_map.mp hp
    exact unmark_decorate _ _ _ (hgood h hmem).1.1 (hgood h hmem).1.2

/-- **C02 (no NUL).** A returned title never contains NUL — for every store, query, sorter, constants and
    markers (even markers that contain NUL). No hypotheses. -/
theorem C02_no_nul (S : Sorter) (K : Consts) (order : List ScoreType) (st : Store) (q : Text) :
    ∀ res ∈ st.search S K order q, 0 ∉ res.title := by
  intro res hres
  simp only [Store.search, Store.searchM, List.mem_map] at hres
  obtain ⟨hit, _, rfl⟩ := hres
  exact zero_not_mem_stripNul _

theorem C02_id_real_src {S : Sorter} (hS : SorterOK S) (st : Store) (hst : RecordsIndexed st) (q : Text) :
    ∀ res ∈ st.search S Gen.srcConsts Gen.srcScoreOrder q, ∃ r ∈ st.records, res.id = r.id := by
  intro res hres
  obtain ⟨r, hr, hid, _⟩ := C02_id_real hS (K := Gen.srcConsts) (by decide) Gen.srcScoreOrder st hst q res hres
  exact ⟨r, hr, hid⟩

theorem C02_title_is_decorated_source_src {S : Sorter} (hS : SorterOK S) (st : Store) (q : Text)
    (H : HitsWF Gen.srcConsts st q) :
    ∀ res ∈ st.search S Gen.srcConsts Gen.srcScoreOrder q, ∃ r ∈ st.records, ∃ spans, res.id = r.id ∧
      SpansOK r.title spans ∧ res.title = stripNul (decorate r.title.source spans st.dividers.1 st.dividers.2) :=
  C02_title_is_decorated_source hS (by decide) Gen.srcScoreOrder st q H

theorem C02_no_markers_gives_source_src {S : Sorter} (hS : SorterOK S) (st : Store) (q : Text)
    (H : HitsWF Gen.srcConsts st q) (hd : st.dividers = ([], [])) :
    ∀ res ∈ st.search S Gen.srcConsts Gen.srcScoreOrder q, ∃ r ∈ st.records, res.id = r.id ∧
      res.title = stripNul r.title.source :=
  C02_no_markers_gives_source hS (by decide) Gen.srcScoreOrder st q H hd

/-! ### non-vacuity of the hypotheses (see also `C09Example`): a one-record store with a well-formed title;
    `SorterOK` is met by merge sort (`mergeSorter_ok`, `Lemmas/TopK.lean`). -/
example : RecordsIndexed C09Example.exStore := by
  intro ix r h
  simp only [C09Example.exStore, Store.add, Store.new, List.nil_append] at h
  match ix, h with
  | 0, h => simp at h; subst h; rfl
example : 1 ≤ C09Example.K0.sortFactor := by decide
example : 1 ≤ Gen.srcConsts.sortFactor := by decide
/-- the store of the example has a record, so the quantifiers over `st.records` are not empty -/
example : C09Example.exStore.records.length = 1 := by decide

end Lucid
