/-
  C13 / C03 / C14 (control-flow half) — from "a word of the record's title matches the first query word" to
  "the record is among the search results", for a store holding no more records than the limit.

  The word-level facts (`wordMatch … ≠ none`, proved by the matching cluster from the gates and the distance)
  and the candidate facts (the record's position is among the index candidates, which are duplicate-free and in
  range; proved by the index cluster) are explicit hypotheses. Helper lemmas: `Lemmas/TextMatchScan.lean`
  (the greedy scan never loses a match), `Lemmas/SearchGlue.lean` (filter and bounded selection).
-/
import LucidModel.Gen.Consts
import LucidProofs.Lemmas.SearchGlue
import LucidProofs.Lemmas.Gates
import LucidProofs.Lemmas.TextMatchScan
import LucidProofs.C17

namespace Lucid

/-- General form. If, for the FIRST query word `q0`, one of the three closures of `text_match` (plain word match,
    joined record words, joined query words) succeeds on some word of the record's title, and the query is a
    single word or `q0` is a finished word, then a candidate record of a store within its limit is returned. -/
theorem found_of_first_word (S : Sorter) (hS : SorterOK S) (K : Consts)
    (order : List ScoreType) (st : Store) (q : Text) (ix : Nat) (r : Record) (hc : CandOK S K st q ix r)
    (hrt : TextOK r.title) (hqt : TextOK q) (q0 : WordShape) (hq0 : q.words[0]? = some q0)
    (hshape : q.words.length = 1 ∨ q0.fin = true)
    (hw : ∃ w ∈ r.title.words, AnyClosure K r.title q (tmInit r.title q) w q0) :
    ∃ res ∈ st.search S K order q, res.id = r.id ∧ res = st.render (scoreHit K order q r) := by
  have hne := textMatch_nonempty_any (K := K) hrt.offsetsOK hqt.offsetsOK q0 hq0 hw
  refine hc.mem_search hS order ?_
  rcases hshape with h1 | hfin
  · exact (hitMatches_single _ h1).mpr (by rw [scoreHit_rmatches]; exact hne.1)
  · refine hitMatches_of_counts _ (by rw [scoreHit_rmatches]; exact hne.1) ?_
    rw [scoreHit_rmatches, scoreHit_qmatches]
    rcases textMatch_first_counts_any (K := K) hrt.offsetsOK hqt.offsetsOK q0 hq0 hw with h | h | ⟨m, hm, hf⟩
    · exact Or.inl h
    · exact Or.inr (Or.inl h)
    · exact Or.inr (Or.inr ⟨m, hm, hf hfin⟩)

/-- C13 (control flow). If the first word of the query is a finished word and matches (`word_match` succeeds on)
    some word of a record's title, the record is a candidate, and the store holds no more records than the
    limit, then the record is among the results — however many further words the query has and whatever they
    are. (The filter passes because either two slots are filled or the only record match is `fin`.) -/
theorem C13_first_finished_word_found (S : Sorter) (hS : SorterOK S) (K : Consts) (hK : 1 ≤ K.sortFactor)
    (order : List ScoreType) (st : Store) (q : Text) (ix : Nat) (r : Record) (hc : CandOK S K st q ix r)
    (hrt : TextOK r.title) (hqt : TextOK q) (q0 : WordShape) (hq0 : q.words[0]? = some q0)
    (hfin : q0.fin = true)
    (w : WordShape) (hw : w ∈ r.title.words) (hwm : wordMatch K r.title w q q0 ≠ none) :
    ∃ res ∈ st.search S K order q, res.id = r.id ∧ res = st.render (scoreHit K order q r) :=
  found_of_first_word S hS K order st q ix r hc hrt hqt q0 hq0 (Or.inr hfin) ⟨w, hw, Or.inl hwm⟩

/-- C03 (control flow). A single-word query whose word matches some word of a record's title returns that
    record, if the record is a candidate and the store holds no more records than the limit. -/
theorem C03_single_word_found (S : Sorter) (hS : SorterOK S) (K : Consts) (hK : 1 ≤ K.sortFactor)
    (order : List ScoreType) (st : Store) (q : Text) (ix : Nat) (r : Record) (hc : CandOK S K st q ix r)
    (hrt : TextOK r.title) (hqt : TextOK q) (q0 : WordShape) (hq : q.words = [q0])
    (w : WordShape) (hw : w ∈ r.title.words) (hwm : wordMatch K r.title w q q0 ≠ none) :
    ∃ res ∈ st.search S K order q, res.id = r.id ∧ res = st.render (scoreHit K order q r) :=
  found_of_first_word S hS K order st q ix r hc hrt hqt q0 (by simp [hq]) (Or.inl (by simp [hq]))
    ⟨w, hw, Or.inl hwm⟩

/-- C14 (control flow, title word spelled as two query words). If the first two query words `q0 q1`, run
    together, match a title word `w` that is long enough, and the matched part reaches into `q1`, then the
    record is returned (`q0` finished; candidate record; store within its limit). -/
theorem C14_split_word_found (S : Sorter) (hS : SorterOK S) (K : Consts) (hK : 1 ≤ K.sortFactor)
    (order : List ScoreType) (st : Store) (q : Text) (ix : Nat) (r : Record) (hc : CandOK S K st q ix r)
    (hrt : TextOK r.title) (hqt : TextOK q) (q0 q1 : WordShape)
    (hq0 : q.words[0]? = some q0) (hq1 : q.words[1]? = some q1) (hfin : q0.fin = true)
    (w : WordShape) (hw : w ∈ r.title.words) (hlen : q0.len + q0.dist q1 ≤ w.len)
    (p : WMatch × WMatch) (hwm : wordMatch K r.title w q (q0.join q1) = some p)
    (hreach : q1.lo < q0.lo + p.2.subHi) :
    ∃ res ∈ st.search S K order q, res.id = r.id ∧ res = st.render (scoreHit K order q r) := by
  have ho : q0.offset = 0 := (hqt.offsetsOK.offset_of_get hq0).1
  refine found_of_first_word S hS K order st q ix r hc hrt hqt q0 hq0 (Or.inr hfin)
    ⟨w, hw, Or.inr (Or.inr ?_)⟩
  rw [tryJoinQ_ne_none_iff]
  refine ⟨q1, by rw [ho]; exact hq1, hlen, ?_, p, hwm, hreach⟩
  rw [ho]
  exact tmInit_qm_get (List.getElem?_eq_some_iff.mp hq1).1

/-- C14 (control flow, two adjacent title words run together in the query). If the first query word `q0` is long
    enough and matches the join of two adjacent title words `w wnext`, the matched part reaching into `wnext`,
    then the record is returned (`q0` finished or the only query word; candidate record; store within its limit). -/
theorem C14_joined_words_found (S : Sorter) (hS : SorterOK S) (K : Consts) (hK : 1 ≤ K.sortFactor)
    (order : List ScoreType) (st : Store) (q : Text) (ix : Nat) (r : Record) (hc : CandOK S K st q ix r)
    (hrt : TextOK r.title) (hqt : TextOK q) (q0 : WordShape)
    (hq0 : q.words[0]? = some q0) (hshape : q.words.length = 1 ∨ q0.fin = true)
    (w wnext : WordShape) (hw : w ∈ r.title.words) (hnext : r.title.words[w.offset + 1]? = some wnext)
    (hlen : w.len + w.dist wnext ≤ q0.len)
    (p : WMatch × WMatch) (hwm : wordMatch K r.title (w.join wnext) q q0 = some p)
    (hreach : wnext.lo < w.lo + p.1.subHi) :
    ∃ res ∈ st.search S K order q, res.id = r.id ∧ res = st.render (scoreHit K order q r) := by
  refine found_of_first_word S hS K order st q ix r hc hrt hqt q0 hq0 hshape
    ⟨w, hw, Or.inr (Or.inl ?_)⟩
  rw [tryJoinR_ne_none_iff]
  exact ⟨wnext, hnext, hlen, tmInit_rm_get (List.getElem?_eq_some_iff.mp hnext).1, p, hwm, hreach⟩

theorem C13_first_finished_word_found_src (S : Sorter) (hS : SorterOK S)
    (st : Store) (q : Text) (ix : Nat) (r : Record) (hc : CandOK S Gen.srcConsts st q ix r)
    (hrt : TextOK r.title) (hqt : TextOK q) (q0 : WordShape) (hq0 : q.words[0]? = some q0)
    (hfin : q0.fin = true)
    (w : WordShape) (hw : w ∈ r.title.words) (hwm : wordMatch Gen.srcConsts r.title w q q0 ≠ none) :
    ∃ res ∈ st.search S Gen.srcConsts Gen.srcScoreOrder q,
      res.id = r.id ∧ res = st.render (scoreHit Gen.srcConsts Gen.srcScoreOrder q r) :=
  C13_first_finished_word_found S hS Gen.srcConsts (by decide) Gen.srcScoreOrder st q ix r hc hrt hqt q0 hq0 hfin
    w hw hwm

theorem C03_single_word_found_src (S : Sorter) (hS : SorterOK S)
    (st : Store) (q : Text) (ix : Nat) (r : Record) (hc : CandOK S Gen.srcConsts st q ix r)
    (hrt : TextOK r.title) (hqt : TextOK q) (q0 : WordShape) (hq : q.words = [q0])
    (w : WordShape) (hw : w ∈ r.title.words) (hwm : wordMatch Gen.srcConsts r.title w q q0 ≠ none) :
    ∃ res ∈ st.search S Gen.srcConsts Gen.srcScoreOrder q,
      res.id = r.id ∧ res = st.render (scoreHit Gen.srcConsts Gen.srcScoreOrder q r) :=
  C03_single_word_found S hS Gen.srcConsts (by decide) Gen.srcScoreOrder st q ix r hc hrt hqt q0 hq w hw hwm

theorem C14_split_word_found_src (S : Sorter) (hS : SorterOK S)
    (st : Store) (q : Text) (ix : Nat) (r : Record) (hc : CandOK S Gen.srcConsts st q ix r)
    (hrt : TextOK r.title) (hqt : TextOK q) (q0 q1 : WordShape)
    (hq0 : q.words[0]? = some q0) (hq1 : q.words[1]? = some q1) (hfin : q0.fin = true)
    (w : WordShape) (hw : w ∈ r.title.words) (hlen : q0.len + q0.dist q1 ≤ w.len)
    (p : WMatch × WMatch) (hwm : wordMatch Gen.srcConsts r.title w q (q0.join q1) = some p)
    (hreach : q1.lo < q0.lo + p.2.subHi) :
    ∃ res ∈ st.search S Gen.srcConsts Gen.srcScoreOrder q,
      res.id = r.id ∧ res = st.render (scoreHit Gen.srcConsts Gen.srcScoreOrder q r) :=
  C14_split_word_found S hS Gen.srcConsts (by decide) Gen.srcScoreOrder st q ix r hc hrt hqt q0 q1 hq0 hq1 hfin
    w hw hlen p hwm hreach

theorem C14_joined_words_found_src (S : Sorter) (hS : SorterOK S)
    (st : Store) (q : Text) (ix : Nat) (r : Record) (hc : CandOK S Gen.srcConsts st q ix r)
    (hrt : TextOK r.title) (hqt : TextOK q) (q0 : WordShape)
    (hq0 : q.words[0]? = some q0) (hshape : q.words.length = 1 ∨ q0.fin = true)
    (w wnext : WordShape) (hw : w ∈ r.title.words) (hnext : r.title.words[w.offset + 1]? = some wnext)
    (hlen : w.len + w.dist wnext ≤ q0.len)
    (p : WMatch × WMatch) (hwm : wordMatch Gen.srcConsts r.title (w.join wnext) q q0 = some p)
    (hreach : wnext.lo < w.lo + p.1.subHi) :
    ∃ res ∈ st.search S Gen.srcConsts Gen.srcScoreOrder q,
      res.id = r.id ∧ res = st.render (scoreHit Gen.srcConsts Gen.srcScoreOrder q r) :=
  C14_joined_words_found S hS Gen.srcConsts (by decide) Gen.srcScoreOrder st q ix r hc hrt hqt q0 hq0 hshape
    w wnext hw hnext hlen p hwm hreach

namespace C13Example

/-! ### non-vacuity: a concrete sorter, store, title and queries meeting every hypothesis -/

def insertBy {α : Type} (le : α → α → Bool) (a : α) : List α → List α
  | [] => [a]
  | b :: t => if le a b then a :: b :: t else b :: insertBy le a t

def isort {α : Type} (le : α → α → Bool) : List α → List α
  | [] => []
  | a :: t => insertBy le a (isort le t)

def exSorter : Sorter := ⟨fun le l => isort le l⟩

theorem exSorter_ok : SorterOK exSorter := fun le P => by
  have e : ∀ l, isort le l = l.foldr (insertBy le) [] := fun l => by induction l <;> simp [isort, *]
  simpa [exSorter, e] using SortSpec.of_insert P (insertBy le) (fun _ => rfl) (fun _ _ _ => rfl)

def wd (o lo hi : Nat) (fin : Bool) : WordShape :=
  { offset := o, lo := lo, hi := hi, stem := hi - lo, pos := none, fin := fin }

/-- title "abc def" -/
def exTitle : Text :=
  { words := [wd 0 0 3 true, wd 1 4 7 true], source := [97,98,99,32,100,101,102],
    chars := [97,98,99,32,100,101,102], classes := List.replicate 7 CharClass.any }
/-- query "abc de" (last word unfinished) -/
def exQuery : Text :=
  { words := [wd 0 0 3 true, wd 1 4 6 false], source := [97,98,99,32,100,101],
    chars := [97,98,99,32,100,101], classes := List.replicate 6 CharClass.any }
/-- query "ab" (a prefix, unfinished) -/
def exQuery1 : Text :=
  { words := [wd 0 0 2 false], source := [97,98], chars := [97,98], classes := List.replicate 2 CharClass.any }

def exRecord : Record := { ix := 0, id := 42, title := exTitle, rating := 0 }
def exStore : Store := (Store.new Gen.srcConsts).add 42 exTitle 0

theorem exTitle_ok : TextOK exTitle := by decide
theorem exQuery_ok : TextOK exQuery := by decide
theorem exQuery1_ok : TextOK exQuery1 := by decide

/-- `word_match("abc", "abc")` succeeds: a finished query word equal to the record word -/
theorem exMatch : wordMatch Gen.srcConsts exTitle (wd 0 0 3 true) exQuery (wd 0 0 3 true) ≠ none :=
  wordMatch_equal_ne_none Gen.srcConsts costsOK_src gateNumsOK_src exTitle _ exQuery _ (by unfold WordIn; decide)
    (by unfold WordIn; decide) (by decide) (by decide) (by decide)

/-- `word_match("abc", "ab…")` succeeds: an unfinished prefix -/
theorem exMatch1 : wordMatch Gen.srcConsts exTitle (wd 0 0 3 true) exQuery1 (wd 0 0 2 false) ≠ none :=
  wordMatch_prefix_ne_none Gen.srcConsts costsOK_src gateNumsOK_src exTitle _ exQuery1 _ (by unfold WordIn; decide)
    (by unfold WordIn; decide) rfl (by decide) (by decide)

theorem exCand : CandOK exSorter Gen.srcConsts exStore exQuery 0 exRecord :=
  have hc : (exStore.candidatesM exSorter Gen.srcConsts exQuery).1 = [0] := by decide +kernel
  ⟨rfl, by rw [hc]; decide, by rw [hc]; decide, by rw [hc]; decide, by decide⟩
theorem exCand1 : CandOK exSorter Gen.srcConsts exStore exQuery1 0 exRecord :=
  have hc : (exStore.candidatesM exSorter Gen.srcConsts exQuery1).1 = [0] := by decide +kernel
  ⟨rfl, by rw [hc]; decide, by rw [hc]; decide, by rw [hc]; decide, by decide⟩

/-- the hypotheses of `C13_first_finished_word_found_src` are met by "abc de" against the title "abc def" -/
example : ∃ res ∈ exStore.search exSorter Gen.srcConsts Gen.srcScoreOrder exQuery, res.id = 42 ∧
    res = exStore.render (scoreHit Gen.srcConsts Gen.srcScoreOrder exQuery exRecord) :=
  C13_first_finished_word_found_src exSorter exSorter_ok exStore exQuery 0 exRecord exCand exTitle_ok exQuery_ok
    (wd 0 0 3 true) (by decide) (by decide) (wd 0 0 3 true) (by decide) exMatch

/-- the hypotheses of `C03_single_word_found_src` are met by the prefix "ab" against the title "abc def" -/
example : ∃ res ∈ exStore.search exSorter Gen.srcConsts Gen.srcScoreOrder exQuery1, res.id = 42 ∧
    res = exStore.render (scoreHit Gen.srcConsts Gen.srcScoreOrder exQuery1 exRecord) :=
  C03_single_word_found_src exSorter exSorter_ok exStore exQuery1 0 exRecord exCand1 exTitle_ok exQuery1_ok
    (wd 0 0 2 false) (by decide) (wd 0 0 3 true) (by decide) exMatch1

/-- title "abcdef" -/
def exTitleJ : Text :=
  { words := [wd 0 0 6 true], source := [97,98,99,100,101,102], chars := [97,98,99,100,101,102],
    classes := List.replicate 6 CharClass.any }
/-- query "abc def" (last word unfinished) -/
def exQueryS : Text :=
  { words := [wd 0 0 3 true, wd 1 4 7 false], source := [97,98,99,32,100,101,102],
    chars := [97,98,99,32,100,101,102], classes := List.replicate 7 CharClass.any }
/-- query "abcdef" (unfinished) -/
def exQueryJ : Text :=
  { words := [wd 0 0 6 false], source := [97,98,99,100,101,102], chars := [97,98,99,100,101,102],
    classes := List.replicate 6 CharClass.any }

def exRecordJ : Record := { ix := 0, id := 43, title := exTitleJ, rating := 0 }
def exStoreJ : Store := (Store.new Gen.srcConsts).add 43 exTitleJ 0

theorem exTitleJ_ok : TextOK exTitleJ := by decide
theorem exQueryS_ok : TextOK exQueryS := by decide
theorem exQueryJ_ok : TextOK exQueryJ := by decide

theorem exCandS : CandOK exSorter Gen.srcConsts exStoreJ exQueryS 0 exRecordJ :=
  have hc : (exStoreJ.candidatesM exSorter Gen.srcConsts exQueryS).1 = [0] := by decide +kernel
  ⟨rfl, by rw [hc]; decide, by rw [hc]; decide, by rw [hc]; decide, by decide⟩
theorem exCandJ : CandOK exSorter Gen.srcConsts exStore exQueryJ 0 exRecord :=
  have hc : (exStore.candidatesM exSorter Gen.srcConsts exQueryJ).1 = [0] := by decide +kernel
  ⟨rfl, by rw [hc]; decide, by rw [hc]; decide, by rw [hc]; decide, by decide⟩

/-- `word_match("abcdef", "abc def" joined)` succeeds with one typo (the separator) -/
theorem exMatchS : wordMatch Gen.srcConsts exTitleJ (wd 0 0 6 true) exQueryS ((wd 0 0 3 true).join (wd 1 4 7 false)) =
    some ({ offset := 0, lo := 0, hi := 6, subLo := 0, subHi := 6, typos := 10, func := false, fin := true },
          { offset := 0, lo := 0, hi := 7, subLo := 0, subHi := 7, typos := 10, func := false, fin := true }) := by
  have hj : jaccardCheck Gen.srcConsts exTitleJ (wd 0 0 6 true) exQueryS ((wd 0 0 3 true).join (wd 1 4 7 false)) = true := by
    rw [jaccardCheck_iff, C17_value_filter _ _ (by decide) (by decide)]
    decide +kernel
  rw [wordMatch_eq_small 7 costsOK_src (by unfold WordIn; decide) (by unfold WordIn; decide), wordMatchM_eq,
    if_pos ⟨by decide, by decide, by decide, hj⟩]
  decide +kernel

/-- `word_match("abc def" joined, "abcdef")` succeeds with one typo -/
theorem exMatchJ : wordMatch Gen.srcConsts exTitle ((wd 0 0 3 true).join (wd 1 4 7 true)) exQueryJ (wd 0 0 6 false) =
    some ({ offset := 0, lo := 0, hi := 7, subLo := 0, subHi := 7, typos := 10, func := false, fin := true },
          { offset := 0, lo := 0, hi := 6, subLo := 0, subHi := 6, typos := 10, func := false, fin := true }) := by
  have hj : jaccardCheck Gen.srcConsts exTitle ((wd 0 0 3 true).join (wd 1 4 7 true)) exQueryJ (wd 0 0 6 false) = true := by
    rw [jaccardCheck_iff, C17_value_filter _ _ (by decide) (by decide)]
    decide +kernel
  rw [wordMatch_eq_small 7 costsOK_src (by unfold WordIn; decide) (by unfold WordIn; decide), wordMatchM_eq,
    if_pos ⟨by decide, by decide, by decide, hj⟩]
  decide +kernel

/-- the hypotheses of `C14_split_word_found_src` are met by "abc def" against the title "abcdef" -/
example : ∃ res ∈ exStoreJ.search exSorter Gen.srcConsts Gen.srcScoreOrder exQueryS, res.id = 43 ∧
    res = exStoreJ.render (scoreHit Gen.srcConsts Gen.srcScoreOrder exQueryS exRecordJ) :=
  C14_split_word_found_src exSorter exSorter_ok exStoreJ exQueryS 0 exRecordJ exCandS exTitleJ_ok exQueryS_ok
    (wd 0 0 3 true) (wd 1 4 7 false) (by decide) (by decide) (by decide) (wd 0 0 6 true) (by decide) (by decide)
    _ exMatchS (by decide)

/-- the hypotheses of `C14_joined_words_found_src` are met by "abcdef" against the title "abc def" -/
example : ∃ res ∈ exStore.search exSorter Gen.srcConsts Gen.srcScoreOrder exQueryJ, res.id = 42 ∧
    res = exStore.render (scoreHit Gen.srcConsts Gen.srcScoreOrder exQueryJ exRecord) :=
  C14_joined_words_found_src exSorter exSorter_ok exStore exQueryJ 0 exRecord exCandJ exTitle_ok exQueryJ_ok
    (wd 0 0 6 false) (by decide) (Or.inl (by decide)) (wd 0 0 3 true) (wd 1 4 7 true) (by decide) (by decide)
    (by decide) _ exMatchJ (by decide)

end C13Example

end Lucid
