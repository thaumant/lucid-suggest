/-
  C05 (the "in particular" clause) — "a title with no letter or digit in common with the query is never
  returned" (for a query with at least one word).

  `NoCommonChar q t`: no (normalised) character occurring in a word of the title `t` occurs in a word of the
  query `q`.  Every gram of a word (`(c0,0,0)`, `(c0,c1,0)`, `(a,b,c)`) has a character of that word as its FIRST
  component (`trigrams_fst_mem`, `Lemmas/Index.lean`), so two texts sharing a gram have a word character in
  common; hence a title with `NoCommonChar` shares no gram with the query (`C05_no_common_char_no_shared_gram`),
  its position is not among the index's candidates (`C05_no_common_char_not_candidate`), it contributes no hit
  (`C05_no_common_char_no_hit`), it is not among the listed records, its verdict is `none`, and – when the ids of
  the store are pairwise distinct – no result carries its id (`C05_no_common_char_not_returned`).
  No hypothesis on the texts (tokenizer invariants) is needed: the argument is on first components only, so the
  padding value 0 plays no role.
-/
import LucidProofs.C06b

namespace Lucid

def NoCommonChar (q t : Text) : Prop :=
  ∀ w ∈ t.words, ∀ v ∈ q.words, ∀ c ∈ wchars t w, c ∉ wchars q v

instance (q t : Text) : Decidable (NoCommonChar q t) := by unfold NoCommonChar; infer_instance

/-- **C05 (no common character ⇒ no shared gram).** A title none of whose word characters occurs in a word of
    the query has no gram (trigram, one- or two-letter word start) in common with the query. -/
theorem C05_no_common_char_no_shared_gram (q t : Text) (h : NoCommonChar q t) : sharesGram q t = false :=
  Bool.eq_false_iff.mpr fun hs =>
    -- the first component of a shared gram is a character of a word on either side
    let ⟨g, hgq, hgt⟩ := sharesGram_iff.mp hs
    let ⟨v, hv, hgv⟩ := mem_collectGrams.mp hgq
    let ⟨w, hw, hgw⟩ := mem_collectGrams.mp hgt
    h w hw v hv g.1 (trigrams_fst_mem _ g hgw) (trigrams_fst_mem _ g hgv)

/-- **C05 (not a candidate).** Store whose index is the trigram index of its records (`StoreIndexInv`, every
    reachable store), query with at least one word: the position of a record whose title has no character in
    common with the query is not in the candidate list. -/
theorem C05_no_common_char_not_candidate (S : Sorter) (hS : SorterOK S) (K : Consts) (hK : 1 ≤ K.sortFactor)
    (st : Store) (hI : StoreIndexInv st) (q : Text) (hq : q.words ≠ [])
    (ix : Nat) (hix : ix < st.records.length) (hn : NoCommonChar q st.records[ix].title) :
    ix ∉ (st.candidatesM S K q).1 := by
  intro hmem
  obtain ⟨_, hs⟩ := mem_candidates_wordy hS hI hq hmem
  rw [C05_no_common_char_no_shared_gram q _ hn] at hs
  cases hs

/-- **C05 (no hit).** Reachable store (`StoreInv`), query with at least one word, `r` a record of the store whose
    title has no character in common with the query: the position of `r` is not a candidate, and no scored hit of
    the search sits at the position of `r` (positions identify records: `StoreInv.ixPos`). -/
theorem C05_no_common_char_no_hit (S : Sorter) (hS : SorterOK S) (K : Consts) (hK : 1 ≤ K.sortFactor)
    (order : List ScoreType) (st : Store) (h : StoreInv S K st) (q : Text) (hq : q.words ≠ [])
    (r : Record) (hr : r ∈ st.records) (hn : NoCommonChar q r.title) :
    r.ix ∉ (st.candidatesM S K q).1 ∧
    ∀ hit ∈ st.hitsOf K order q (st.candidatesM S K q).1, hit.ix ≠ r.ix := by
  have hget := records_lookup h r hr
  obtain ⟨hlt, he⟩ := List.getElem?_eq_some_iff.mp hget
  have hnc : r.ix ∉ (st.candidatesM S K q).1 :=
    C05_no_common_char_not_candidate S hS K hK st h.indexInv q hq r.ix hlt (by rw [he]; exact hn)
  refine ⟨hnc, fun hit hhit he' => ?_⟩
  rw [hitsOf_eq_candRecs] at hhit
  obtain ⟨r', hr', rfl⟩ := List.mem_map.mp (List.mem_filter.mp hhit).1
  exact hnc (he' ▸ ((mem_candRecs h).mp hr').2)

/-- **C05 (never returned).** Reachable store, query with at least one word, `r` a record of the store whose title
    has no letter or digit (normalised word character) in common with the query. Then
    * `r` is not among the records behind the results (`st.listed`, of which the results are the rendered hits,
      `C06_nodup`), nor is any record at the same position;
    * on its own the record yields nothing (`verdict … = none`, cf. `C06_local_sound`: every result is the
      verdict of a record);
    * when the ids of the records are pairwise distinct, no result carries the id of `r`. -/
theorem C05_no_common_char_not_returned (S : Sorter) (hS : SorterOK S) (K : Consts) (hK : 1 ≤ K.sortFactor)
    (order : List ScoreType) (st : Store) (h : StoreInv S K st) (q : Text) (hq : q.words ≠ [])
    (r : Record) (hr : r ∈ st.records) (hn : NoCommonChar q r.title) :
    (∀ r' ∈ st.listed S K order q, r'.ix ≠ r.ix) ∧
    verdict K st.dividers q r.data = none ∧
    ((st.records.map (·.id)).Nodup → ∀ res ∈ st.search S K order q, res.id ≠ r.id) := by
  have hnh : isHit K q r.title = false := by
    simp [isHit, hq, C05_no_common_char_no_shared_gram q r.title hn]
  -- a listed record is a hit on its own, so it is not `r`; nor does it agree with `r` in a key that tells the
  -- records of the store apart (the position always, the id when the ids are distinct)
  have key : ∀ f : Record → Nat, st.records.Pairwise (fun a b => f a ≠ f b) →
      ∀ r' ∈ st.listed S K order q, f r' ≠ f r := by
    intro f hf r' hr' e
    obtain ⟨h1, h2⟩ := listed_isHit hS h q order r' hr'
    rw [inj_of_pairwise_ne f st.records hf r' h1 r hr e, hnh] at h2
    cases h2
  refine ⟨key _ (records_pairwise_ix h), verdict_of_not_isHit K st.dividers q r.data hnh, fun hid res hres => ?_⟩
  rw [search_eq_listed hS order st q] at hres
  obtain ⟨r', hr', rfl⟩ := List.mem_map.mp hres
  exact key (·.id) (List.pairwise_map.mp hid) r' hr'

theorem C05_no_common_char_not_candidate_src (S : Sorter) (hS : SorterOK S)
    (st : Store) (hI : StoreIndexInv st) (q : Text) (hq : q.words ≠ [])
    (ix : Nat) (hix : ix < st.records.length) (hn : NoCommonChar q st.records[ix].title) :
    ix ∉ (st.candidatesM S Gen.srcConsts q).1 :=
  C05_no_common_char_not_candidate S hS Gen.srcConsts (by decide) st hI q hq ix hix hn

theorem C05_no_common_char_no_hit_src (S : Sorter) (hS : SorterOK S)
    (st : Store) (h : StoreInv S Gen.srcConsts st) (q : Text) (hq : q.words ≠ [])
    (r : Record) (hr : r ∈ st.records) (hn : NoCommonChar q r.title) :
    r.ix ∉ (st.candidatesM S Gen.srcConsts q).1 ∧
    ∀ hit ∈ st.hitsOf Gen.srcConsts Gen.srcScoreOrder q (st.candidatesM S Gen.srcConsts q).1, hit.ix ≠ r.ix :=
  C05_no_common_char_no_hit S hS Gen.srcConsts (by decide) Gen.srcScoreOrder st h q hq r hr hn

theorem C05_no_common_char_not_returned_src (S : Sorter) (hS : SorterOK S)
    (st : Store) (h : StoreInv S Gen.srcConsts st) (q : Text) (hq : q.words ≠ [])
    (r : Record) (hr : r ∈ st.records) (hn : NoCommonChar q r.title) :
    (∀ r' ∈ st.listed S Gen.srcConsts Gen.srcScoreOrder q, r'.ix ≠ r.ix) ∧
    verdict Gen.srcConsts st.dividers q r.data = none ∧
    ((st.records.map (·.id)).Nodup → ∀ res ∈ st.search S Gen.srcConsts Gen.srcScoreOrder q, res.id ≠ r.id) :=
  C05_no_common_char_not_returned S hS Gen.srcConsts (by decide) Gen.srcScoreOrder st h q hq r hr hn

/-- … for every store reachable from `Store.new` by adds, clears, setters and searches -/
theorem C05_no_common_char_not_returned_reachable_src (S : Sorter) (hS : SorterOK S) (ops : List StoreOp)
    (q : Text) (hq : q.words ≠ []) :
    let st := Store.run S Gen.srcConsts Gen.srcScoreOrder (Store.new Gen.srcConsts) ops
    ∀ r ∈ st.records, NoCommonChar q r.title →
      (∀ r' ∈ st.listed S Gen.srcConsts Gen.srcScoreOrder q, r'.ix ≠ r.ix) ∧
      verdict Gen.srcConsts st.dividers q r.data = none ∧
      ((st.records.map (·.id)).Nodup → ∀ res ∈ st.search S Gen.srcConsts Gen.srcScoreOrder q, res.id ≠ r.id) :=
  fun r hr hn => C05_no_common_char_not_returned_src S hS _ (StoreInv_reachable S _ _ ops) q hq r hr hn

/-! ### non-vacuity -/

section Examples

private def oneWord (cs : List Nat) : Text :=
  { words := [{ offset := 0, lo := 0, hi := cs.length, stem := cs.length, pos := none, fin := true }],
    source := cs, chars := cs, classes := cs.map (fun _ => .any) }

/-- titles "metal", "xyz"; query "met" -/
private def exRecs : List (Nat × Text × Nat) := [(10, oneWord [109, 101, 116, 97, 108], 1), (20, oneWord [120, 121, 122], 2)]
private def exQ : Text := oneWord [109, 101, 116]
private def exSt : Store := mkStore Gen.srcConsts 5 ([91], [93]) exRecs
private def exR : Record := { ix := 1, id := 20, title := oneWord [120, 121, 122], rating := 2 }

example : StoreInv mergeSorter Gen.srcConsts exSt := StoreInv_fresh ..
example : exQ.words ≠ [] := by decide
example : exR ∈ exSt.records := by decide
/-- "xyz" has no character in common with "met", "metal" has -/
example : NoCommonChar exQ exR.title := by decide
example : ¬ NoCommonChar exQ (oneWord [109, 101, 116, 97, 108]) := by decide
example : (exSt.records.map (·.id)).Nodup := by decide
/-- the candidate list for "met" is `[0]`: position 1 ("xyz") is absent -/
example : (exSt.candidatesM locInsSorter Gen.srcConsts exQ).1 = [0] := by decide +kernel

end Examples

end Lucid
