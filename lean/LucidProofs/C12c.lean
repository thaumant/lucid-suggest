/-
  C12c — "a query without any letter or digit", read literally.

  C12 and its API form take `q.words = []` as hypothesis. This file says when that happens, in terms of characters:

  * `C12_no_alnum_no_words`: the tokenised query has no word IFF none of its (normalised, lower-cased) characters is
    a letter or digit (from `TokInv.cover` and `TokInv.first_alnum`, C15); same for records;
  * `C12_no_words_iff_normChars`: … IFF none of the characters after `normalize` (compose, then reduce) is a letter
    or digit (lower-casing preserves alphanumeric-ness, `UnicodeFacts.lower_alnum`);
  * `C12_no_words_iff_raw`: for a raw string none of whose characters occurs in a key of the language's compose /
    reduce tables (`NoKeyCharT`; then `normalize` leaves the string alone): no word IFF no character of the raw
    string is a letter or digit. In particular `C12_no_alnum_query`, `C12_separator_only_query` (strings of
    whitespace / control / punctuation-set characters; no condition on `lower1` is needed);
  * with the real tables of Rust's `std`, in each of the seven generated languages, for every string over
    space `-` `!` `?` `,` `.`: `C12_separator_query_std`, and `C12_length` restated with that hypothesis:
    `C12_separator_query_length_std`; top-level API form `C12_api_no_alnum_query`.
-/
import LucidProofs.C12b
import LucidProofs.API
import LucidProofs.C15std

namespace Lucid
open Gen

/-! ### no word ⇔ no letter or digit among the normalised characters -/

/-- **C12, the hypothesis in characters (queries).** Whatever is typed: the tokenised query has no word if and only
    if none of its normalised, lower-cased characters is a letter or digit. Hypotheses as for C15 (`UnicodeFacts`,
    `TablesOK`, `StemHyp`). -/
theorem C12_no_alnum_no_words (E : Env) (hU : UnicodeFacts E.U E.K) (hT : TablesOK E.T = true) (hSt : StemHyp E)
    (s : List Nat) :
    (tokenizeQuery srcProg E s).words = [] ↔ ∀ c ∈ (tokenizeQuery srcProg E s).chars, E.U.isAlnum c = false :=
  (tokInv_tokenizeQuery E hU hT hSt s).words_nil_iff

/-- the same for a title: a tokenised title has no word iff it contains no letter or digit -/
theorem C12_no_alnum_no_words_record (E : Env) (hU : UnicodeFacts E.U E.K) (hT : TablesOK E.T = true)
    (hSt : StemHyp E) (s : List Nat) :
    (tokenizeRecord srcProg E s).words = [] ↔ ∀ c ∈ (tokenizeRecord srcProg E s).chars, E.U.isAlnum c = false :=
  (tokInv_tokenizeRecord E hU hT hSt s).words_nil_iff

/-- … if and only if none of the characters after `normalize` (Unicode composition, then the language's
    reduction of diacritics) is a letter or digit: lower-casing does not change alphanumeric-ness. -/
theorem C12_no_words_iff_normChars (E : Env) (hU : UnicodeFacts E.U E.K) (hT : TablesOK E.T = true)
    (hSt : StemHyp E) (s : List Nat) :
    (tokenizeQuery srcProg E s).words = [] ↔ ∀ c ∈ normChars E s, E.U.isAlnum c = false := by
  rw [C12_no_alnum_no_words E hU hT hSt s, tokenizeQuery_chars, List.forall_mem_map]
  simp only [hU.lower_alnum]

/-! ### raw strings that `normalize` leaves alone -/

/-- no character of `s` occurs in a key of the language's compose or reduce table
    (`NoKeyChar m s` of `Lemmas/Normalize.lean`, for both tables) -/
def NoKeyCharT (T : LangTables) (s : List Nat) : Prop := NoKeyChar T.compose s ∧ NoKeyChar T.reduce s

instance (T : LangTables) (s : List Nat) : Decidable (NoKeyCharT T s) := by
  unfold NoKeyCharT NoKeyChar; infer_instance

theorem normChars_noKey (E : Env) (s : List Nat) (h : NoKeyCharT E.T s) : normChars E s = s := by
  unfold normChars
  rw [composeWith_noKey _ s h.1, composeWith_noKey _ s h.2]

/-- **C12, the hypothesis on the raw string.** For a typed string none of whose characters takes part in a
    normalisation pattern of the language: the tokenised query has no word if and only if the string contains no
    letter or digit. -/
theorem C12_no_words_iff_raw (E : Env) (hU : UnicodeFacts E.U E.K) (hT : TablesOK E.T = true) (hSt : StemHyp E)
    (s : List Nat) (hk : NoKeyCharT E.T s) :
    (tokenizeQuery srcProg E s).words = [] ↔ ∀ c ∈ s, E.U.isAlnum c = false := by
  rw [C12_no_words_iff_normChars E hU hT hSt s, normChars_noKey E s hk]

/-- a query without any letter or digit has no word -/
theorem C12_no_alnum_query (E : Env) (hU : UnicodeFacts E.U E.K) (hT : TablesOK E.T = true) (hSt : StemHyp E)
    (s : List Nat) (hk : NoKeyCharT E.T s) (hs : ∀ c ∈ s, E.U.isAlnum c = false) :
    (tokenizeQuery srcProg E s).words = [] :=
  (C12_no_words_iff_raw E hU hT hSt s hk).2 hs

/-- **Separator-only queries.** A typed string consisting of whitespace, control and punctuation-set characters
    (`isSepChar`) that occur in no normalisation pattern tokenises to no word. (No condition on lower-casing is
    needed: `to_lowercase` preserves "is a letter or digit".) -/
theorem C12_separator_only_query (E : Env) (hU : UnicodeFacts E.U E.K) (hT : TablesOK E.T = true) (hSt : StemHyp E)
    (s : List Nat) (hk : NoKeyCharT E.T s) (hs : ∀ c ∈ s, isSepChar E.U E.K c = true) :
    (tokenizeQuery srcProg E s).words = [] :=
  C12_no_alnum_query E hU hT hSt s hk (fun c hc => hU.sep_not_alnum c (hs c hc))

/-! ### real Unicode tables, the seven generated languages, ASCII blanks and punctuation -/

/-- space `-` `!` `?` `,` `.` -/
def asciiSeps : List Nat := [32, 45, 33, 63, 44, 46]

theorem asciiSeps_sep_src : ∀ c ∈ asciiSeps, isSepChar srcUnicode srcConsts c = true := by decide +kernel

theorem asciiSeps_noKey_srcLangs :
    srcLangs.all (fun p => decide (NoKeyCharT p.2 asciiSeps)) = true := by decide +kernel

theorem noKeyChar_asciiSeps {name : String} {T : LangTables} (hT : (name, T) ∈ srcLangs) (s : List Nat)
    (hs : ∀ c ∈ s, c ∈ asciiSeps) : NoKeyCharT T s := by
  have h := List.all_eq_true.1 asciiSeps_noKey_srcLangs _ hT
  simp only [decide_eq_true_eq] at h
  exact ⟨fun c hc => h.1 c (hs c hc), fun c hc => h.2 c (hs c hc)⟩

/-- **C12, ASCII blanks and punctuation, real tables.** In each of the seven generated languages, with the character
    predicates of Rust's `std`, every string over space `-` `!` `?` `,` `.` (the empty string included) tokenises to
    a query without words. -/
theorem C12_separator_query_std {name : String} {T : LangTables} (hT : (name, T) ∈ srcLangs) (stem : List Nat → Nat)
    (hSt : StemHyp (stdEnv T stem)) (s : List Nat) (hs : ∀ c ∈ s, c ∈ asciiSeps) :
    (tokenizeQuery srcProg (stdEnv T stem) s).words = [] :=
  C12_separator_only_query (stdEnv T stem) unicodeFacts_src (tablesOK_of_srcLangs hT) hSt s
    (noKeyChar_asciiSeps hT s hs) (fun c hc => asciiSeps_sep_src c (hs c hc))

/-- **C12 (number of hits) for blank / punctuation queries.** After any sequence of adds, clears, limit / marker
    changes and searches, typing a string of ASCII blanks and punctuation (or nothing) returns exactly
    `min(limit, number of records currently held)` hits — real Unicode tables, every generated language. -/
theorem C12_separator_query_length_std (S : Sorter) (hS : SorterOK S) {name : String} {T : LangTables}
    (hT : (name, T) ∈ srcLangs) (stem : List Nat → Nat) (hSt : StemHyp (stdEnv T stem)) (ops : List StoreOp)
    (s : List Nat) (hs : ∀ c ∈ s, c ∈ asciiSeps) :
    ((Store.run S srcConsts srcScoreOrder (Store.new srcConsts) ops).search S srcConsts srcScoreOrder
        (tokenizeQuery srcProg (stdEnv T stem) s)).length =
      min (Store.run S srcConsts srcScoreOrder (Store.new srcConsts) ops).limit
          (Store.run S srcConsts srcScoreOrder (Store.new srcConsts) ops).records.length :=
  C12_length_src S hS ops _ (C12_separator_query_std hT stem hSt s hs)

/-- … and what is shown: each hit is a record added by one of the `add` calls, its title is the raw title after
    Unicode composition with NULs removed (nothing highlighted). -/
theorem C12_separator_query_titles_std (S : Sorter) (hS : SorterOK S) {name : String} {T : LangTables}
    (hT : (name, T) ∈ srcLangs) (stem : List Nat → Nat) (hSt : StemHyp (stdEnv T stem)) (ops : List ApiOp)
    (s : List Nat) (hs : ∀ c ∈ s, c ∈ asciiSeps) :
    ∀ res ∈ ((Store.new srcConsts).run S srcConsts srcScoreOrder
          (ops.map (ApiOp.toStoreOp srcProg (stdEnv T stem)))).search S srcConsts srcScoreOrder
        (tokenizeQuery srcProg (stdEnv T stem) s),
      ∃ title rating, ApiOp.add res.id title rating ∈ ops ∧ res.title = (compose T title).filter (· ≠ 0) :=
  C12_api_title_is_input_src S hS srcUnicode T stem unicodeFacts_src (tablesOK_of_srcLangs hT) hSt ops s
    (C12_separator_query_std hT stem hSt s hs)

/-- **C12 at the top-level API, hypothesis on the raw query.** If the raw query contains no letter or digit and
    none of its characters takes part in a normalisation pattern of the language of store `id`, then after
    `run_search(id, q)` — until the next search on `id` — the buffer holds exactly `min(limit, n)` results
    (`limit` in force at the search, `n` records added to `id` since its creation or, if it was cleared with
    `clearStore id`, since the last clear). -/
theorem C12_api_no_alnum_query (S : Sorter) (hS : SorterOK S) (envs : Nat → Env) (hE : EnvsOK envs)
    (pre post later : List RegOp) (id lang : Nat) (q : List Nat)
    (hv : Registry.allValid S srcProg envs Registry.empty
            (pre ++ RegOp.create id lang :: post ++ RegOp.runSearch id q :: later) = true)
    (hk : ∀ op ∈ post, op.keeps id = true) (hq : ∀ op ∈ later, op.quiet id = true)
    (hkey : NoKeyCharT (envs lang).T q) (hna : ∀ c ∈ q, (envs lang).U.isAlnum c = false) :
    ((amGet (Registry.empty.run S srcProg envs
        (pre ++ RegOp.create id lang :: post ++ RegOp.runSearch id q :: later)).results id).getD []).length
      = min (limitOf id post) (addedOf id post).length :=
  C12_api_empty_query S hS envs hE pre post later id lang q hv hk hq
    (C12_no_alnum_query (envs lang) (hE.consts lang ▸ hE.unicode lang) (hE.tables lang) (hE.stem lang) q hkey hna)

section Examples

/-- German, real tables, half-length stemmer: all hypotheses of the `_std` theorems hold -/
example : StemHyp (stdEnv lang_de toyStem) := toyStemHyp_std (name := "de") (by simp [srcLangs])
example : ∀ c ∈ [32, 33, 63, 32, 46, 46, 46], c ∈ asciiSeps := by decide
example : (tokenizeQuery srcProg (stdEnv lang_de toyStem) [32, 33, 63, 32, 46, 46, 46]).words = [] :=
  C12_separator_query_std (name := "de") (by simp [srcLangs]) toyStem
    (toyStemHyp_std (name := "de") (by simp [srcLangs])) _ (by decide)

/-- the toy oracle of C15 with the English tables: `" - "` has no key character and no letter or digit … -/
example : NoKeyCharT (toyEnv lang_en).T [32, 45, 32] ∧ ∀ c ∈ [32, 45, 32], (toyEnv lang_en).U.isAlnum c = false := by
  decide
/-- … whereas "a b" has a letter, and its tokenisation has words (the equivalence is not vacuous either way) -/
example : ¬ (∀ c ∈ [97, 32, 98], (toyEnv lang_en).U.isAlnum c = false) := by decide
example : (tokenizeQuery srcProg (toyEnv lang_en) [97, 32, 98]).words ≠ [] := by decide +kernel
/-- a character that IS in a key: `e` followed by U+0301 composes in French, so `NoKeyCharT` fails for U+0301 -/
example : ¬ NoKeyCharT lang_fr [0x301] := by decide

end Examples

end Lucid
