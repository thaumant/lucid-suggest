/-
  C03b — the findability theorems C03 / C04 / C13 (and C14 for joined words) with NO premise about the tokenizer
  left.

  `C03_prefix_found_tokenized_src`, `C04_single_edit_found_tokenized_src` and `C13_whole_title_found_tokenized_src`
  assume how the typed text tokenises ("its tokenisation is the single unfinished word … with characters …").
  Here these premises are discharged:
  * for typed texts that are `Stable` (`Lemmas/StableText.lean`: one word in normal form — the tokenizer returns
    it unchanged), in particular for every non-empty text of ASCII letters `a`–`z` and digits in each of the seven
    generated languages (`stable_of_asciiLower`, `asciiFree_*`);
  * for a title typed exactly as it was stored, for ANY text (`tokenize_query_record_same`: the two pipelines cut a
    text into the same words).
  The theorems speak about the raw typed string: the query is `tokenizeQuery Gen.srcProg E p`.
-/
import LucidProofs.C04
import LucidProofs.C13b
import LucidProofs.C14
import LucidProofs.Lemmas.StableText

namespace Lucid

/-! ### C03: typing a prefix of a title word -/

/-- core: the typed text `p` is stable and is the prefix of `k` characters of the title word -/
theorem C03_typed_core (S : Sorter) (hS : SorterOK S) (E : Env)
    (hU : UnicodeFacts E.U E.K) (hT : TablesOK E.T = true) (hSt : StemHyp E)
    (hC : CostsOK E.K = true) (hN : GateNumsOK E.K = true) (hK : 1 ≤ E.K.sortFactor) (hP : 1 ≤ E.K.prepFactor)
    (order : List ScoreType) (ops : List StoreOp)
    (hops : ∀ id t rating, StoreOp.add id t rating ∈ ops → ∃ s, t = tokenizeRecord Gen.srcProg E s)
    (hlim : ((Store.new E.K).run S E.K order ops).records.length ≤ ((Store.new E.K).run S E.K order ops).limit)
    (ix : Nat) (r : Record) (hr : ((Store.new E.K).run S E.K order ops).records[ix]? = some r)
    (w : WordShape) (hw : w ∈ r.title.words) (k : Nat)
    (hst : Stable E ((wchars r.title w).take k)) :
    ∃ res ∈ ((Store.new E.K).run S E.K order ops).search S E.K order
        (tokenizeQuery Gen.srcProg E ((wchars r.title w).take k)),
      res.id = r.id ∧
      res = ((Store.new E.K).run S E.K order ops).render
              (scoreHit E.K order (tokenizeQuery Gen.srcProg E ((wchars r.title w).take k)) r) := by
  obtain ⟨v, hq, _, _, hfin, hlen, _, hwc⟩ := tokenizeQuery_stable_word E _ hst
  refine C03_prefix_found_tokenized S hS E hU hT hSt hC hN hK hP order ops hops hlim ix r hr _ v hq hfin w hw ?_ ?_
  · rw [hlen]; exact Nat.le_trans (List.length_take_le' _ _) (slice_length_le _ _ _)
  · rw [hwc, hlen, List.length_take, ← List.take_eq_take_min]

/-- **C03 for the typed string (any constants).** See `C03_prefix_typed_found_src`. -/
theorem C03_prefix_typed_found (S : Sorter) (hS : SorterOK S) (E : Env)
    (hU : UnicodeFacts E.U E.K) (hT : TablesOK E.T = true) (hSt : StemHyp E)
    (hC : CostsOK E.K = true) (hN : GateNumsOK E.K = true) (hK : 1 ≤ E.K.sortFactor) (hP : 1 ≤ E.K.prepFactor)
    (order : List ScoreType) (ops : List StoreOp)
    (hops : ∀ id t rating, StoreOp.add id t rating ∈ ops → ∃ s, t = tokenizeRecord Gen.srcProg E s)
    (hlim : ((Store.new E.K).run S E.K order ops).records.length ≤ ((Store.new E.K).run S E.K order ops).limit)
    (ix : Nat) (r : Record) (hr : ((Store.new E.K).run S E.K order ops).records[ix]? = some r)
    (w : WordShape) (hw : w ∈ r.title.words) (k : Nat) (hk : 1 ≤ k)
    (hlast : ((wchars r.title w).take k).getLast?.map E.U.isAlnum = some true)
    (hcomp : compose E.T ((wchars r.title w).take k) = (wchars r.title w).take k)
    (hred : reduce E.T ((wchars r.title w).take k) = none) :
    ∃ res ∈ ((Store.new E.K).run S E.K order ops).search S E.K order
        (tokenizeQuery Gen.srcProg E ((wchars r.title w).take k)),
      res.id = r.id ∧
      res = ((Store.new E.K).run S E.K order ops).render
              (scoreHit E.K order (tokenizeQuery Gen.srcProg E ((wchars r.title w).take k)) r) := by
  obtain ⟨s', hs'⟩ := reachable_title_tokenized S E E.K order ops hops ix r hr
  have hst : Stable E ((wchars r.title w).take k) := by
    rw [hs'] at hw hlast hcomp hred ⊢
    exact stable_of_title_prefix E hU hT hSt s' w hw k hk hlast hcomp hred
  exact C03_typed_core S hS E hU hT hSt hC hN hK hP order ops hops hlim ix r hr w hw k hst

/-- **C03 for the typed string.** What a user learns: in a store (reached from `Store::new` by any operations,
    titles added through `tokenize_record`) holding no more records than its limit, take a record, a word `w` of its
    tokenised title and `k ≥ 1`. Let `p` be the first `k` characters of the word. If `p` ends in a letter or digit
    and is left unchanged by the language's compose / reduce tables (it does not end inside an accent sequence),
    then **searching for the raw string `p`** returns the record — for the generated constants, pipelines and
    score order, in every language. No premise about the tokenisation of `p` is left, and none about upper-case
    characters: the characters of a stored title are their own lower-case forms (`wchars_title_lower_fixed`),
    which is all the unconditional `TextOwn::lower` (D5 fix) needs to leave `p` alone.
    (`k` may exceed the word length: then `p` is the whole word.) -/
theorem C03_prefix_typed_found_src (S : Sorter) (hS : SorterOK S)
    (U : Unicode) (T : LangTables) (stem : List Nat → Nat)
    (hU : UnicodeFacts U Gen.srcConsts) (hT : TablesOK T = true) (hSt : StemHyp (Gen.srcProg.env U T stem))
    (ops : List StoreOp)
    (hops : ∀ id t rating, StoreOp.add id t rating ∈ ops →
      ∃ s, t = tokenizeRecord Gen.srcProg (Gen.srcProg.env U T stem) s)
    (hlim : ((Store.new Gen.srcConsts).run S Gen.srcConsts Gen.srcScoreOrder ops).records.length
              ≤ ((Store.new Gen.srcConsts).run S Gen.srcConsts Gen.srcScoreOrder ops).limit)
    (ix : Nat) (r : Record)
    (hr : ((Store.new Gen.srcConsts).run S Gen.srcConsts Gen.srcScoreOrder ops).records[ix]? = some r)
    (w : WordShape) (hw : w ∈ r.title.words) (k : Nat) (hk : 1 ≤ k)
    (hlast : ((wchars r.title w).take k).getLast?.map U.isAlnum = some true)
    (hcomp : compose T ((wchars r.title w).take k) = (wchars r.title w).take k)
    (hred : reduce T ((wchars r.title w).take k) = none) :
    ∃ res ∈ ((Store.new Gen.srcConsts).run S Gen.srcConsts Gen.srcScoreOrder ops).search S Gen.srcConsts
        Gen.srcScoreOrder (tokenizeQuery Gen.srcProg (Gen.srcProg.env U T stem) ((wchars r.title w).take k)),
      res.id = r.id ∧
      res = ((Store.new Gen.srcConsts).run S Gen.srcConsts Gen.srcScoreOrder ops).render
              (scoreHit Gen.srcConsts Gen.srcScoreOrder
                (tokenizeQuery Gen.srcProg (Gen.srcProg.env U T stem) ((wchars r.title w).take k)) r) :=
  C03_prefix_typed_found S hS (Gen.srcProg.env U T stem) hU hT hSt costsOK_src gateNumsOK_src
    (show 1 ≤ Gen.srcConsts.sortFactor by decide) (show 1 ≤ Gen.srcConsts.prepFactor by decide) Gen.srcScoreOrder
    ops hops hlim ix r hr w hw k hk hlast hcomp hred

/-- **C03 for ASCII prefixes.** If the first `k ≥ 1` characters of a title word are ASCII lower-case letters or
    digits, typing them returns the record: for the Unicode oracle only the 36 facts of `AsciiFacts` are needed
    beyond `UnicodeFacts`, and the language may be any whose tables have no pure-ASCII key (`asciiFree_none` …
    `asciiFree_ru`: all seven generated languages). -/
theorem C03_prefix_ascii_found_src (S : Sorter) (hS : SorterOK S)
    (U : Unicode) (T : LangTables) (stem : List Nat → Nat)
    (hU : UnicodeFacts U Gen.srcConsts) (hA : AsciiFacts U) (hT : TablesOK T = true)
    (hF : AsciiFreeTables T = true) (hSt : StemHyp (Gen.srcProg.env U T stem))
    (ops : List StoreOp)
    (hops : ∀ id t rating, StoreOp.add id t rating ∈ ops →
      ∃ s, t = tokenizeRecord Gen.srcProg (Gen.srcProg.env U T stem) s)
    (hlim : ((Store.new Gen.srcConsts).run S Gen.srcConsts Gen.srcScoreOrder ops).records.length
              ≤ ((Store.new Gen.srcConsts).run S Gen.srcConsts Gen.srcScoreOrder ops).limit)
    (ix : Nat) (r : Record)
    (hr : ((Store.new Gen.srcConsts).run S Gen.srcConsts Gen.srcScoreOrder ops).records[ix]? = some r)
    (w : WordShape) (hw : w ∈ r.title.words) (k : Nat) (hk : 1 ≤ k)
    (hascii : AsciiLower ((wchars r.title w).take k)) :
    ∃ res ∈ ((Store.new Gen.srcConsts).run S Gen.srcConsts Gen.srcScoreOrder ops).search S Gen.srcConsts
        Gen.srcScoreOrder (tokenizeQuery Gen.srcProg (Gen.srcProg.env U T stem) ((wchars r.title w).take k)),
      res.id = r.id ∧
      res = ((Store.new Gen.srcConsts).run S Gen.srcConsts Gen.srcScoreOrder ops).render
              (scoreHit Gen.srcConsts Gen.srcScoreOrder
                (tokenizeQuery Gen.srcProg (Gen.srcProg.env U T stem) ((wchars r.title w).take k)) r) := by
  obtain ⟨s', hri⟩ := reachable_title_tokInv hU hT hSt S _ _ hops hr
  exact C03_typed_core S hS (Gen.srcProg.env U T stem) hU hT hSt costsOK_src gateNumsOK_src
    (show 1 ≤ Gen.srcConsts.sortFactor by decide) (show 1 ≤ Gen.srcConsts.prepFactor by decide) Gen.srcScoreOrder
    ops hops hlim ix r hr w hw k
    (stable_of_asciiLower (Gen.srcProg.env U T stem) rfl hA hF _ hascii fun e =>
      (hri.wchars_facts w hw).1 ((List.take_eq_nil_iff.1 e).resolve_left (by omega)))

/-! ### C04: typing a title word with one typing error -/

/-- **C04 for the typed string (any constants).** -/
theorem C04_single_edit_typed_found (S : Sorter) (hS : SorterOK S) (E : Env)
    (hU : UnicodeFacts E.U E.K) (hTb : TablesOK E.T = true) (hSt : StemHyp E)
    (hC : CostsOK E.K = true) (hT : TypoNumsOK E.K = true) (hK : 1 ≤ E.K.sortFactor) (hP : 1 ≤ E.K.prepFactor)
    (order : List ScoreType) (ops : List StoreOp)
    (hops : ∀ id t rating, StoreOp.add id t rating ∈ ops → ∃ s, t = tokenizeRecord Gen.srcProg E s)
    (hlim : ((Store.new E.K).run S E.K order ops).records.length ≤ ((Store.new E.K).run S E.K order ops).limit)
    (ix : Nat) (r : Record) (hr : ((Store.new E.K).run S E.K order ops).records[ix]? = some r)
    (w : WordShape) (hw : w ∈ r.title.words) (h5 : 5 ≤ w.len) (h3 : 3 ≤ distinctCard (wchars r.title w))
    (cs' : List Nat) (hst : Stable E cs') (hed : Edit1 (wchars r.title w) cs') :
    ∃ res ∈ ((Store.new E.K).run S E.K order ops).search S E.K order (tokenizeQuery Gen.srcProg E cs'),
      res.id = r.id ∧
      res = ((Store.new E.K).run S E.K order ops).render (scoreHit E.K order (tokenizeQuery Gen.srcProg E cs') r) := by
  obtain ⟨v, hq, _, _, hfin, _, _, hwc⟩ := tokenizeQuery_stable_word E cs' hst
  exact C04_single_edit_found_tokenized S hS E hU hTb hSt hC hT hK hP order ops hops hlim ix r hr cs' v hq hfin w hw
    h5 h3 (by rw [hwc]; exact hed)

/-- **C04 for the typed string.** What a user learns: in a store holding no more records than its limit, take a
    word of a record's tokenised title with at least five characters, three of them distinct, and make ONE typing
    error in it (substitute, insert, delete a character, or swap two adjacent ones). If the misspelt word `cs'` is
    `Stable` (one word in normal form: no separator, letter/digit at both ends, every character its own lower-case
    form, untouched by the language's tables), **searching for the raw string `cs'`** returns the record, in every language. -/
theorem C04_single_edit_typed_found_src (S : Sorter) (hS : SorterOK S)
    (U : Unicode) (T : LangTables) (stem : List Nat → Nat)
    (hU : UnicodeFacts U Gen.srcConsts) (hTb : TablesOK T = true) (hSt : StemHyp (Gen.srcProg.env U T stem))
    (ops : List StoreOp)
    (hops : ∀ id t rating, StoreOp.add id t rating ∈ ops →
      ∃ s, t = tokenizeRecord Gen.srcProg (Gen.srcProg.env U T stem) s)
    (hlim : ((Store.new Gen.srcConsts).run S Gen.srcConsts Gen.srcScoreOrder ops).records.length
              ≤ ((Store.new Gen.srcConsts).run S Gen.srcConsts Gen.srcScoreOrder ops).limit)
    (ix : Nat) (r : Record)
    (hr : ((Store.new Gen.srcConsts).run S Gen.srcConsts Gen.srcScoreOrder ops).records[ix]? = some r)
    (w : WordShape) (hw : w ∈ r.title.words) (h5 : 5 ≤ w.len) (h3 : 3 ≤ distinctCard (wchars r.title w))
    (cs' : List Nat) (hst : Stable (Gen.srcProg.env U T stem) cs') (hed : Edit1 (wchars r.title w) cs') :
    ∃ res ∈ ((Store.new Gen.srcConsts).run S Gen.srcConsts Gen.srcScoreOrder ops).search S Gen.srcConsts
        Gen.srcScoreOrder (tokenizeQuery Gen.srcProg (Gen.srcProg.env U T stem) cs'),
      res.id = r.id ∧
      res = ((Store.new Gen.srcConsts).run S Gen.srcConsts Gen.srcScoreOrder ops).render
              (scoreHit Gen.srcConsts Gen.srcScoreOrder (tokenizeQuery Gen.srcProg (Gen.srcProg.env U T stem) cs') r) :=
  C04_single_edit_typed_found S hS (Gen.srcProg.env U T stem) hU hTb hSt costsOK_src typoNumsOK_src
    (show 1 ≤ Gen.srcConsts.sortFactor by decide) (show 1 ≤ Gen.srcConsts.prepFactor by decide) Gen.srcScoreOrder
    ops hops hlim ix r hr w hw h5 h3 cs' hst hed

/-- **C04 for ASCII misspellings**: the misspelt word consists of ASCII lower-case letters / digits. -/
theorem C04_single_edit_ascii_found_src (S : Sorter) (hS : SorterOK S)
    (U : Unicode) (T : LangTables) (stem : List Nat → Nat)
    (hU : UnicodeFacts U Gen.srcConsts) (hA : AsciiFacts U) (hTb : TablesOK T = true)
    (hF : AsciiFreeTables T = true) (hSt : StemHyp (Gen.srcProg.env U T stem))
    (ops : List StoreOp)
    (hops : ∀ id t rating, StoreOp.add id t rating ∈ ops →
      ∃ s, t = tokenizeRecord Gen.srcProg (Gen.srcProg.env U T stem) s)
    (hlim : ((Store.new Gen.srcConsts).run S Gen.srcConsts Gen.srcScoreOrder ops).records.length
              ≤ ((Store.new Gen.srcConsts).run S Gen.srcConsts Gen.srcScoreOrder ops).limit)
    (ix : Nat) (r : Record)
    (hr : ((Store.new Gen.srcConsts).run S Gen.srcConsts Gen.srcScoreOrder ops).records[ix]? = some r)
    (w : WordShape) (hw : w ∈ r.title.words) (h5 : 5 ≤ w.len) (h3 : 3 ≤ distinctCard (wchars r.title w))
    (cs' : List Nat) (hascii : AsciiLower cs') (hed : Edit1 (wchars r.title w) cs') :
    ∃ res ∈ ((Store.new Gen.srcConsts).run S Gen.srcConsts Gen.srcScoreOrder ops).search S Gen.srcConsts
        Gen.srcScoreOrder (tokenizeQuery Gen.srcProg (Gen.srcProg.env U T stem) cs'),
      res.id = r.id ∧
      res = ((Store.new Gen.srcConsts).run S Gen.srcConsts Gen.srcScoreOrder ops).render
              (scoreHit Gen.srcConsts Gen.srcScoreOrder (tokenizeQuery Gen.srcProg (Gen.srcProg.env U T stem) cs') r) := by
  obtain ⟨s', hri⟩ := reachable_title_tokInv hU hTb hSt S _ _ hops hr
  refine C04_single_edit_typed_found_src S hS U T stem hU hTb hSt ops hops hlim ix r hr w hw h5 h3 cs'
    (stable_of_asciiLower (Gen.srcProg.env U T stem) rfl hA hF cs' hascii fun e => ?_) hed
  have := hed.length_ge
  rw [(hri.wchars_facts w hw).2.1, e, List.length_nil] at this
  omega

/-! ### C13: typing the title as it was stored -/

/-- **C13 for the typed string (any constants).** -/
theorem C13_whole_title_typed (S : Sorter) (hS : SorterOK S) (E : Env)
    (hU : UnicodeFacts E.U E.K) (hT : TablesOK E.T = true) (hSt : StemHyp E)
    (hC : CostsOK E.K = true) (hN : GateNumsOK E.K = true) (hK : 1 ≤ E.K.sortFactor) (hP : 1 ≤ E.K.prepFactor)
    (order : List ScoreType) (ops : List StoreOp)
    (hops : ∀ id t rating, StoreOp.add id t rating ∈ ops → ∃ s, t = tokenizeRecord Gen.srcProg E s)
    (hlim : ((Store.new E.K).run S E.K order ops).records.length ≤ ((Store.new E.K).run S E.K order ops).limit)
    (ix : Nat) (r : Record) (hr : ((Store.new E.K).run S E.K order ops).records[ix]? = some r)
    (s : List Nat) (htitle : r.title = tokenizeRecord Gen.srcProg E s) (hne : r.title.words ≠ []) :
    ∃ res ∈ ((Store.new E.K).run S E.K order ops).search S E.K order (tokenizeQuery Gen.srcProg E s),
      res.id = r.id ∧
      res = ((Store.new E.K).run S E.K order ops).render (scoreHit E.K order (tokenizeQuery Gen.srcProg E s) r) :=
  C13_whole_title_found_tokenized S hS E hU hT hSt hC hN hK hP order ops hops hlim ix r hr hne s
    (by rw [htitle]; exact (tokenize_query_record_same E s).2.2)

/-- **C13 for the typed string.** What a user learns: in a store holding no more records than its limit, if a
    record was added with the title text `s` (any text whatsoever: several words, capitals, accents, punctuation)
    and that title has at least one word, then **typing exactly `s`** returns the record, in every language. No
    premise about the tokenisation is left: the query pipeline and the record pipeline cut `s` into the same
    words. In particular this covers titles that are `Stable` words joined by single spaces. -/
theorem C13_whole_title_typed_src (S : Sorter) (hS : SorterOK S)
    (U : Unicode) (T : LangTables) (stem : List Nat → Nat)
    (hU : UnicodeFacts U Gen.srcConsts) (hT : TablesOK T = true) (hSt : StemHyp (Gen.srcProg.env U T stem))
    (ops : List StoreOp)
    (hops : ∀ id t rating, StoreOp.add id t rating ∈ ops →
      ∃ s, t = tokenizeRecord Gen.srcProg (Gen.srcProg.env U T stem) s)
    (hlim : ((Store.new Gen.srcConsts).run S Gen.srcConsts Gen.srcScoreOrder ops).records.length
              ≤ ((Store.new Gen.srcConsts).run S Gen.srcConsts Gen.srcScoreOrder ops).limit)
    (ix : Nat) (r : Record)
    (hr : ((Store.new Gen.srcConsts).run S Gen.srcConsts Gen.srcScoreOrder ops).records[ix]? = some r)
    (s : List Nat) (htitle : r.title = tokenizeRecord Gen.srcProg (Gen.srcProg.env U T stem) s)
    (hne : r.title.words ≠ []) :
    ∃ res ∈ ((Store.new Gen.srcConsts).run S Gen.srcConsts Gen.srcScoreOrder ops).search S Gen.srcConsts
        Gen.srcScoreOrder (tokenizeQuery Gen.srcProg (Gen.srcProg.env U T stem) s),
      res.id = r.id ∧
      res = ((Store.new Gen.srcConsts).run S Gen.srcConsts Gen.srcScoreOrder ops).render
              (scoreHit Gen.srcConsts Gen.srcScoreOrder (tokenizeQuery Gen.srcProg (Gen.srcProg.env U T stem) s) r) :=
  C13_whole_title_typed S hS (Gen.srcProg.env U T stem) hU hT hSt costsOK_src gateNumsOK_src
    (show 1 ≤ Gen.srcConsts.sortFactor by decide) (show 1 ≤ Gen.srcConsts.prepFactor by decide) Gen.srcScoreOrder
    ops hops hlim ix r hr s htitle hne

/-- **C14 (run-together spelling) for the typed string.** What a user learns: two adjacent words `w1 w2` of a stored
    title, separated by exactly one separator character that the language's consonant/vowel table does not list,
    at least three characters in all. If the run-together spelling `w1w2` is `Stable` (automatic for ASCII
    lower-case letters / digits, `stable_of_asciiLower`) and stemming leaves it whole (`hstemq`; vacuous for a
    language without stemmer), then **searching for the raw string `w1w2`** returns the record. The remaining
    premises are about the stored title only. -/
theorem C14_joined_typed_found_src (S : Sorter) (hS : SorterOK S)
    (U : Unicode) (T : LangTables) (stem : List Nat → Nat)
    (hU : UnicodeFacts U Gen.srcConsts) (hT : TablesOK T = true) (hSt : StemHyp (Gen.srcProg.env U T stem))
    (ops : List StoreOp)
    (hops : ∀ id t rating, StoreOp.add id t rating ∈ ops →
      ∃ s, t = tokenizeRecord Gen.srcProg (Gen.srcProg.env U T stem) s)
    (hlim : ((Store.new Gen.srcConsts).run S Gen.srcConsts Gen.srcScoreOrder ops).records.length
              ≤ ((Store.new Gen.srcConsts).run S Gen.srcConsts Gen.srcScoreOrder ops).limit)
    (ix : Nat) (r : Record)
    (hr : ((Store.new Gen.srcConsts).run S Gen.srcConsts Gen.srcScoreOrder ops).records[ix]? = some r)
    (w1 w2 : WordShape) (hw1 : w1 ∈ r.title.words) (hnext : r.title.words[w1.offset + 1]? = some w2)
    (hadj : w2.lo = w1.hi + 1) (sep : Nat) (hsep : r.title.chars[w1.hi]? = some sep)
    (hsepS : isSepChar U Gen.srcConsts sep = true) (hsepT : getCharClass T sep = none)
    (hL : 3 ≤ w1.len + w2.len)
    (hst : Stable (Gen.srcProg.env U T stem) (wchars r.title w1 ++ wchars r.title w2))
    (hstemq : T.stemmer = true →
      stem (wchars r.title w1 ++ wchars r.title w2) = (wchars r.title w1 ++ wchars r.title w2).length) :
    ∃ res ∈ ((Store.new Gen.srcConsts).run S Gen.srcConsts Gen.srcScoreOrder ops).search S Gen.srcConsts
        Gen.srcScoreOrder
        (tokenizeQuery Gen.srcProg (Gen.srcProg.env U T stem) (wchars r.title w1 ++ wchars r.title w2)),
      res.id = r.id ∧
      res = ((Store.new Gen.srcConsts).run S Gen.srcConsts Gen.srcScoreOrder ops).render
              (scoreHit Gen.srcConsts Gen.srcScoreOrder
                (tokenizeQuery Gen.srcProg (Gen.srcProg.env U T stem) (wchars r.title w1 ++ wchars r.title w2)) r) := by
  obtain ⟨s', hri⟩ := reachable_title_tokInv hU hT hSt S _ _ hops hr
  have e := tokenizeQuery_stable _ _ hst
  refine C14_joined_found_tokenized_src S hS U T stem hU hT hSt ops hops hlim ix r hr _
    (stableWord (Gen.srcProg.env U T stem) (wchars r.title w1 ++ wchars r.title w2) false)
    (by rw [e]; rfl) ?_ ?_ w1 w2 hw1 hnext hadj sep hsep hsepS hsepT (by rw [e, wchars_stableText])
  · rw [stableWord_len, List.length_append, (hri.wchars_facts w1 hw1).2.1,
      (hri.wchars_facts w2 (List.mem_of_getElem? hnext)).2.1]
    exact hL
  · show (if T.stemmer = true then _ else _) = _
    split
    · exact hstemq ‹_›
    · rfl

namespace C03bExample
open C13Example C03Example C04Example

/-! ### non-vacuity -/

def exRec : Record :=
  { ix := 0, id := 42, title := tokenizeRecord Gen.srcProg exEnv [65, 98, 99, 32, 100, 101, 102], rating := 7 }

def exW : WordShape := { offset := 1, lo := 4, hi := 7, stem := 2, pos := none, fin := true }

theorem exOps_tok : ∀ id t rating, StoreOp.add id t rating ∈ exOps → ∃ s, t = tokenizeRecord Gen.srcProg exEnv s :=
  exOps_ok

theorem exW_chars : wchars exRec.title exW = [100, 101, 102] := by rw [exRec, exTitle_tok]; decide

/-- the hypotheses of `C03_prefix_ascii_found_src` are met by the store of `C03Example` ("Abc def" added, one
    search, limit lowered to 5): typing the raw strings "d", "de", "def" returns record 42 (toy ASCII oracle,
    English tables) -/
example (p : List Nat) (hp : p = [100] ∨ p = [100, 101] ∨ p = [100, 101, 102]) :
    ∃ res ∈ ((Store.new Gen.srcConsts).run exSorter Gen.srcConsts Gen.srcScoreOrder exOps).search exSorter
        Gen.srcConsts Gen.srcScoreOrder (tokenizeQuery Gen.srcProg exEnv p), res.id = 42 := by
  have key := fun k hk ha =>
    C03_prefix_ascii_found_src exSorter exSorter_ok toyU Gen.lang_en toyStem toyU_facts toyU_asciiFacts tablesOK_en
      asciiFree_en (toyStemHyp _ (by decide)) exOps exOps_tok (by decide : (1 : Nat) ≤ 5) 0 exRec rfl
      exW (by rw [exRec, exTitle_tok]; decide) k hk ha
  rcases hp with rfl | rfl | rfl
  · obtain ⟨res, h1, h2, _⟩ := key 1 (by decide) (by rw [exW_chars]; decide)
    rw [exW_chars] at h1; exact ⟨res, h1, h2⟩
  · obtain ⟨res, h1, h2, _⟩ := key 2 (by decide) (by rw [exW_chars]; decide)
    rw [exW_chars] at h1; exact ⟨res, h1, h2⟩
  · obtain ⟨res, h1, h2, _⟩ := key 3 (by decide) (by rw [exW_chars]; decide)
    rw [exW_chars] at h1; exact ⟨res, h1, h2⟩

/-- German tables: the title "Straße" is stored as "strasse" -/
def deEnv : Env := Gen.srcProg.env toyU Gen.lang_de toyStem
def deOps : List StoreOp := [.add 9 (tokenizeRecord Gen.srcProg deEnv [83, 116, 114, 97, 223, 101]) 0]
def deRec : Record :=
  { ix := 0, id := 9, title := tokenizeRecord Gen.srcProg deEnv [83, 116, 114, 97, 223, 101], rating := 0 }
def deW : WordShape := { offset := 0, lo := 0, hi := 7, stem := 4, pos := none, fin := true }
theorem deW_chars : wchars deRec.title deW = [115, 116, 114, 97, 115, 115, 101] := by decide +kernel

/-- the hypotheses of `C03_prefix_typed_found_src` are met: typing "stras" finds "Straße" -/
example : ∃ res ∈ ((Store.new Gen.srcConsts).run exSorter Gen.srcConsts Gen.srcScoreOrder deOps).search exSorter
    Gen.srcConsts Gen.srcScoreOrder (tokenizeQuery Gen.srcProg deEnv [115, 116, 114, 97, 115]), res.id = 9 := by
  have hops : ∀ id t rating, StoreOp.add id t rating ∈ deOps → ∃ s, t = tokenizeRecord Gen.srcProg deEnv s := by
    intro id t rating hm
    simp only [deOps, List.mem_cons, StoreOp.add.injEq, List.not_mem_nil, or_false] at hm
    exact ⟨_, hm.2.1⟩
  obtain ⟨res, h1, h2, _⟩ :=
    C03_prefix_typed_found_src exSorter exSorter_ok toyU Gen.lang_de toyStem toyU_facts tablesOK_de
      (toyStemHyp_src (name := "de") (by simp [Gen.srcLangs])) deOps hops (by decide : (1 : Nat) ≤ 10) 0 deRec rfl
      deW (by decide +kernel) 5 (by decide) (by rw [deW_chars]; decide) (by rw [deW_chars]; decide +kernel)
      (by rw [deW_chars]; decide +kernel)
  rw [deW_chars] at h1
  exact ⟨res, h1, h2⟩

def pRec : Record :=
  { ix := 0, id := 7, title := tokenizeRecord Gen.srcProg exEnv [66, 108, 117, 101, 32, 112, 108, 97, 110, 101, 116],
    rating := 3 }
theorem pWord_chars : wchars pRec.title pWord = [112, 108, 97, 110, 101, 116] := by rw [pRec, pTitle_tok]; decide

/-- the hypotheses of `C04_single_edit_ascii_found_src` are met: typing the raw string "plonet" finds "Blue planet" -/
example : ∃ res ∈ ((Store.new Gen.srcConsts).run exSorter Gen.srcConsts Gen.srcScoreOrder pOps).search exSorter
    Gen.srcConsts Gen.srcScoreOrder (tokenizeQuery Gen.srcProg exEnv [112, 108, 111, 110, 101, 116]), res.id = 7 := by
  obtain ⟨res, h1, h2, _⟩ :=
    C04_single_edit_ascii_found_src exSorter exSorter_ok toyU Gen.lang_en toyStem toyU_facts toyU_asciiFacts
      tablesOK_en asciiFree_en (toyStemHyp _ (by decide)) pOps pOps_ok (by decide : (1 : Nat) ≤ 5) 0 pRec rfl
      pWord (by rw [pRec, pTitle_tok]; decide) (by decide) (by rw [pWord_chars]; decide) [112, 108, 111, 110, 101, 116]
      (by decide)
      (by rw [pWord_chars]; exact Edit1.sub [112, 108] [110, 101, 116] 97 111 (by decide))
  exact ⟨res, h1, h2⟩

/-- the hypotheses of `C13_whole_title_typed_src` are met: typing "Abc def" (capital included) finds "Abc def" -/
example : ∃ res ∈ ((Store.new Gen.srcConsts).run exSorter Gen.srcConsts Gen.srcScoreOrder exOps).search exSorter
    Gen.srcConsts Gen.srcScoreOrder (tokenizeQuery Gen.srcProg exEnv [65, 98, 99, 32, 100, 101, 102]), res.id = 42 := by
  obtain ⟨res, h1, h2, _⟩ :=
    C13_whole_title_typed_src exSorter exSorter_ok toyU Gen.lang_en toyStem toyU_facts tablesOK_en
      (toyStemHyp _ (by decide)) exOps exOps_tok (by decide : (1 : Nat) ≤ 5) 0 exRec rfl
      [65, 98, 99, 32, 100, 101, 102] rfl (by rw [exRec, exTitle_tok]; decide)
  exact ⟨res, h1, h2⟩

/-- the hypotheses of `C14_joined_typed_found_src` are met by the store of `C14Example` ("Ab c", "Abc def";
    `lang_none`): typing the raw string "abcdef" finds "Abc def" -/
example :
    ∃ res ∈ ((Store.new Gen.srcConsts).run exSorter Gen.srcConsts Gen.srcScoreOrder C14Example.exOpsJ).search exSorter
        Gen.srcConsts Gen.srcScoreOrder (tokenizeQuery Gen.srcProg C14Example.exEnvN [97, 98, 99, 100, 101, 102]),
      res.id = 9 := by
  obtain ⟨res, h1, h2, _⟩ :=
    C14_joined_typed_found_src exSorter exSorter_ok toyU Gen.lang_none toyStem toyU_facts tablesOK_none
      (stemHyp_of_no_stemmer _ rfl) C14Example.exOpsJ C14Example.exOpsJ_ok (by decide : (2 : Nat) ≤ 10) 1
      { ix := 1, id := 9, title := tokenizeRecord Gen.srcProg C14Example.exEnvN [65, 98, 99, 32, 100, 101, 102],
        rating := 1 }
      rfl
      { offset := 0, lo := 0, hi := 3, stem := 3, pos := none, fin := true }
      { offset := 1, lo := 4, hi := 7, stem := 3, pos := none, fin := true }
      (by decide +kernel) (by decide +kernel) (by decide) 32 (by decide +kernel) (by decide) (by decide +kernel)
      (by decide) (by decide +kernel) (by intro h; cases h)
  have e : wchars (tokenizeRecord Gen.srcProg C14Example.exEnvN [65, 98, 99, 32, 100, 101, 102])
        { offset := 0, lo := 0, hi := 3, stem := 3, pos := none, fin := true } ++
      wchars (tokenizeRecord Gen.srcProg C14Example.exEnvN [65, 98, 99, 32, 100, 101, 102])
        { offset := 1, lo := 4, hi := 7, stem := 3, pos := none, fin := true } = [97, 98, 99, 100, 101, 102] := by
    decide +kernel
  simp only [e] at h1
  exact ⟨res, h1, h2⟩

end C03bExample

end Lucid
