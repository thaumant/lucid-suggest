/-
  C04 — "In a store holding no more records than the limit, take any title word made of at least five letters, at
  least three of them distinct, and apply one edit to its normalised form: substitute one letter by a different
  letter, insert a letter, delete a letter, or swap two adjacent letters. Searching for the edited word alone still
  returns the record, in every language."

  The query is the single unfinished word `w'` (the edited word typed without a trailing separator).

  End-to-end assembly:
  * one edit      — `Edit1` (`Lemmas/Edit1.lean`): lengths, character sets, a shared gram, and the weighted distance
                    `DL.D ≤ 1.0` (`DL.D_edit1_le`: an edit script of cost 1, a swap through the transposition branch);
  * word level    — `wordMatch_edit1_ne_none` (`Lemmas/TypoGates.lean`): the length gate, the Jaccard gate and the two
                    slice loops of `word_match` accept the pair of full slices `(|w'|, |w|)`;
  * candidates    — `candOK_of_inv` (`Lemmas/Candidates.lean`) from the shared gram (`shares_gram_of_edit1`,
                    `Lemmas/Edit1.lean`);
  * control flow  — `C03_single_word_found` (`C13.lean`): greedy scan, filter, bounded selection.
  The tokenizer-level corollaries take the texts from `tokenize_record` / `tokenize_query` (`C15.lean`).
  "Letters" enter the model proof only through the per-character edit costs being at most 1.0, which holds for every
  character class (`cword_costLe`), so no hypothesis about the classes of the characters is needed.
-/
import LucidProofs.C03
import LucidProofs.Lemmas.TypoGates

namespace Lucid

/-- **C04.** Let a store carry the trigram index of its records (`StoreIndexInv`: true of every store reached from
    `Store::new` by any sequence of operations) and hold no more records than its limit. Let `r` be one of its
    records and `w` a word of its title with at least five characters, at least three of them distinct. Then every
    query consisting of one unfinished word `v` whose characters are those of `w` with ONE typing error (`Edit1`:
    one character substituted by a different one, one character inserted, one character deleted, or two adjacent
    different characters swapped) returns `r` among the results — whatever the other records, the rating, the
    character classes, the language tables and the sorting oracle are.
    Hypotheses on the texts: title and query are well-formed (`TextOK`, delivered by the tokenizer, C15) and the
    stem of the query word is no longer than the word. Numeric hypotheses: `CostsOK`, `TypoNumsOK` (decided at the
    constants of the source). -/
theorem C04_single_edit_found (S : Sorter) (hS : SorterOK S) (K : Consts)
    (hC : CostsOK K = true) (hT : TypoNumsOK K = true) (hK : 1 ≤ K.sortFactor) (hP : 1 ≤ K.prepFactor)
    (order : List ScoreType) (st : Store) (hI : StoreIndexInv st) (hlim : st.records.length ≤ st.limit)
    (ix : Nat) (r : Record) (hr : st.records[ix]? = some r) (hrt : TextOK r.title)
    (q : Text) (hqt : TextOK q) (v : WordShape) (hq : q.words = [v]) (hfin : v.fin = false)
    (hstem : v.stem ≤ v.len)
    (w : WordShape) (hw : w ∈ r.title.words) (h5 : 5 ≤ w.len) (h3 : 3 ≤ distinctCard (wchars r.title w))
    (hed : Edit1 (wchars r.title w) (wchars q v)) :
    ∃ res ∈ st.search S K order q, res.id = r.id ∧ res = st.render (scoreHit K order q r) := by
  have hv : v ∈ q.words := by rw [hq]; exact List.mem_singleton.mpr rfl
  have hvin := hqt.wordIn hv
  have hwin := hrt.wordIn hw
  have hc : CandOK S K st q ix r :=
    candOK_of_inv S hS K hP st hI hlim q ix r hr
      (shares_gram_of_edit1 hw hv (by rw [wchars_length hwin]; exact h5) hed)
  exact C03_single_word_found S hS K hK order st q ix r hc hrt hqt v hq w hw
    (wordMatch_edit1_ne_none K hC hT r.title w q v hwin hvin hfin hstem h5 h3 hed)

/-! ### the four kinds of edit, spelled out -/

/-- C04, substitution: the title word reads `x a y`, the query word `x b y` with `b ≠ a`. -/
theorem C04_sub_found (S : Sorter) (hS : SorterOK S) (K : Consts)
    (hC : CostsOK K = true) (hT : TypoNumsOK K = true) (hK : 1 ≤ K.sortFactor) (hP : 1 ≤ K.prepFactor)
    (order : List ScoreType) (st : Store) (hI : StoreIndexInv st) (hlim : st.records.length ≤ st.limit)
    (ix : Nat) (r : Record) (hr : st.records[ix]? = some r) (hrt : TextOK r.title)
    (q : Text) (hqt : TextOK q) (v : WordShape) (hq : q.words = [v]) (hfin : v.fin = false)
    (hstem : v.stem ≤ v.len)
    (w : WordShape) (hw : w ∈ r.title.words) (h5 : 5 ≤ w.len) (h3 : 3 ≤ distinctCard (wchars r.title w))
    (x y : List Nat) (a b : Nat) (hab : a ≠ b)
    (hwc : wchars r.title w = x ++ a :: y) (hvc : wchars q v = x ++ b :: y) :
    ∃ res ∈ st.search S K order q, res.id = r.id ∧ res = st.render (scoreHit K order q r) :=
  C04_single_edit_found S hS K hC hT hK hP order st hI hlim ix r hr hrt q hqt v hq hfin hstem w hw h5 h3
    (by rw [hwc, hvc]; exact Edit1.sub x y a b hab)

/-- C04, insertion: the title word reads `x y`, the query word `x c y`. -/
theorem C04_ins_found (S : Sorter) (hS : SorterOK S) (K : Consts)
    (hC : CostsOK K = true) (hT : TypoNumsOK K = true) (hK : 1 ≤ K.sortFactor) (hP : 1 ≤ K.prepFactor)
    (order : List ScoreType) (st : Store) (hI : StoreIndexInv st) (hlim : st.records.length ≤ st.limit)
    (ix : Nat) (r : Record) (hr : st.records[ix]? = some r) (hrt : TextOK r.title)
    (q : Text) (hqt : TextOK q) (v : WordShape) (hq : q.words = [v]) (hfin : v.fin = false)
    (hstem : v.stem ≤ v.len)
    (w : WordShape) (hw : w ∈ r.title.words) (h5 : 5 ≤ w.len) (h3 : 3 ≤ distinctCard (wchars r.title w))
    (x y : List Nat) (c : Nat)
    (hwc : wchars r.title w = x ++ y) (hvc : wchars q v = x ++ c :: y) :
    ∃ res ∈ st.search S K order q, res.id = r.id ∧ res = st.render (scoreHit K order q r) :=
  C04_single_edit_found S hS K hC hT hK hP order st hI hlim ix r hr hrt q hqt v hq hfin hstem w hw h5 h3
    (by rw [hwc, hvc]; exact Edit1.ins x y c)

/-- C04, deletion: the title word reads `x c y`, the query word `x y`. -/
theorem C04_del_found (S : Sorter) (hS : SorterOK S) (K : Consts)
    (hC : CostsOK K = true) (hT : TypoNumsOK K = true) (hK : 1 ≤ K.sortFactor) (hP : 1 ≤ K.prepFactor)
    (order : List ScoreType) (st : Store) (hI : StoreIndexInv st) (hlim : st.records.length ≤ st.limit)
    (ix : Nat) (r : Record) (hr : st.records[ix]? = some r) (hrt : TextOK r.title)
    (q : Text) (hqt : TextOK q) (v : WordShape) (hq : q.words = [v]) (hfin : v.fin = false)
    (hstem : v.stem ≤ v.len)
    (w : WordShape) (hw : w ∈ r.title.words) (h5 : 5 ≤ w.len) (h3 : 3 ≤ distinctCard (wchars r.title w))
    (x y : List Nat) (c : Nat)
    (hwc : wchars r.title w = x ++ c :: y) (hvc : wchars q v = x ++ y) :
    ∃ res ∈ st.search S K order q, res.id = r.id ∧ res = st.render (scoreHit K order q r) :=
  C04_single_edit_found S hS K hC hT hK hP order st hI hlim ix r hr hrt q hqt v hq hfin hstem w hw h5 h3
    (by rw [hwc, hvc]; exact Edit1.del x y c)

/-- C04, swap: the title word reads `x a b y`, the query word `x b a y` with `a ≠ b`. -/
theorem C04_swap_found (S : Sorter) (hS : SorterOK S) (K : Consts)
    (hC : CostsOK K = true) (hT : TypoNumsOK K = true) (hK : 1 ≤ K.sortFactor) (hP : 1 ≤ K.prepFactor)
    (order : List ScoreType) (st : Store) (hI : StoreIndexInv st) (hlim : st.records.length ≤ st.limit)
    (ix : Nat) (r : Record) (hr : st.records[ix]? = some r) (hrt : TextOK r.title)
    (q : Text) (hqt : TextOK q) (v : WordShape) (hq : q.words = [v]) (hfin : v.fin = false)
    (hstem : v.stem ≤ v.len)
    (w : WordShape) (hw : w ∈ r.title.words) (h5 : 5 ≤ w.len) (h3 : 3 ≤ distinctCard (wchars r.title w))
    (x y : List Nat) (a b : Nat) (hab : a ≠ b)
    (hwc : wchars r.title w = x ++ a :: b :: y) (hvc : wchars q v = x ++ b :: a :: y) :
    ∃ res ∈ st.search S K order q, res.id = r.id ∧ res = st.render (scoreHit K order q r) :=
  C04_single_edit_found S hS K hC hT hK hP order st hI hlim ix r hr hrt q hqt v hq hfin hstem w hw h5 h3
    (by rw [hwc, hvc]; exact Edit1.swap x y a b hab)

/-- C04 for every reachable store: the store is the result of any sequence of `add`, `clear`, `set_limit`,
    `highlight_with` and `search` calls on a new store, every added title being well-formed. -/
theorem C04_single_edit_found_reachable (S : Sorter) (hS : SorterOK S) (K : Consts)
    (hC : CostsOK K = true) (hT : TypoNumsOK K = true) (hK : 1 ≤ K.sortFactor) (hP : 1 ≤ K.prepFactor)
    (order : List ScoreType) (ops : List StoreOp)
    (hops : ∀ id t rating, StoreOp.add id t rating ∈ ops → TextOK t)
    (hlim : ((Store.new K).run S K order ops).records.length ≤ ((Store.new K).run S K order ops).limit)
    (ix : Nat) (r : Record) (hr : ((Store.new K).run S K order ops).records[ix]? = some r)
    (q : Text) (hqt : TextOK q) (v : WordShape) (hq : q.words = [v]) (hfin : v.fin = false)
    (hstem : v.stem ≤ v.len)
    (w : WordShape) (hw : w ∈ r.title.words) (h5 : 5 ≤ w.len) (h3 : 3 ≤ distinctCard (wchars r.title w))
    (hed : Edit1 (wchars r.title w) (wchars q v)) :
    ∃ res ∈ ((Store.new K).run S K order ops).search S K order q,
      res.id = r.id ∧ res = ((Store.new K).run S K order ops).render (scoreHit K order q r) :=
  C04_single_edit_found S hS K hC hT hK hP order _ (StoreIndexInv_reachable S K order ops) hlim ix r hr
    (hops _ _ _ (run_new_records_add S K order ops r (List.mem_of_getElem? hr))) q hqt v hq hfin hstem w hw h5 h3 hed

/-- **C04 on tokenised texts.** Titles are results of `tokenize_record`, the query is the result of
    `tokenize_query` (both with the generated step lists), for any language tables meeting `TablesOK`, any Unicode
    oracle meeting `UnicodeFacts` and any bounded stemmer. Premise about the typed text `s`: its tokenisation is a
    single unfinished word whose (normalised) characters are those of a word of the record's tokenised title, of at
    least five characters, three of them distinct, with one typing error. -/
theorem C04_single_edit_found_tokenized (S : Sorter) (hS : SorterOK S) (E : Env)
    (hU : UnicodeFacts E.U E.K) (hTb : TablesOK E.T = true) (hSt : StemHyp E)
    (hC : CostsOK E.K = true) (hT : TypoNumsOK E.K = true) (hK : 1 ≤ E.K.sortFactor) (hP : 1 ≤ E.K.prepFactor)
    (order : List ScoreType) (ops : List StoreOp)
    (hops : ∀ id t rating, StoreOp.add id t rating ∈ ops → ∃ s, t = tokenizeRecord Gen.srcProg E s)
    (hlim : ((Store.new E.K).run S E.K order ops).records.length ≤ ((Store.new E.K).run S E.K order ops).limit)
    (ix : Nat) (r : Record) (hr : ((Store.new E.K).run S E.K order ops).records[ix]? = some r)
    (s : List Nat) (v : WordShape) (hq : (tokenizeQuery Gen.srcProg E s).words = [v]) (hfin : v.fin = false)
    (w : WordShape) (hw : w ∈ r.title.words) (h5 : 5 ≤ w.len) (h3 : 3 ≤ distinctCard (wchars r.title w))
    (hed : Edit1 (wchars r.title w) (wchars (tokenizeQuery Gen.srcProg E s) v)) :
    ∃ res ∈ ((Store.new E.K).run S E.K order ops).search S E.K order (tokenizeQuery Gen.srcProg E s),
      res.id = r.id ∧
      res = ((Store.new E.K).run S E.K order ops).render (scoreHit E.K order (tokenizeQuery Gen.srcProg E s) r) := by
  have hqi := tokInv_tokenizeQuery E hU hTb hSt s
  exact C04_single_edit_found_reachable S hS E.K hC hT hK hP order ops
    (fun id t rating hm => (tokenized_ops_ok hU hTb hSt hops id t rating hm).1) hlim ix r hr _ hqi.textOK v hq hfin
    (hqi.stemsLe v (by rw [hq]; exact List.mem_singleton.mpr rfl)) w hw h5 h3 hed

theorem C04_single_edit_found_src (S : Sorter) (hS : SorterOK S)
    (st : Store) (hI : StoreIndexInv st) (hlim : st.records.length ≤ st.limit)
    (ix : Nat) (r : Record) (hr : st.records[ix]? = some r) (hrt : TextOK r.title)
    (q : Text) (hqt : TextOK q) (v : WordShape) (hq : q.words = [v]) (hfin : v.fin = false)
    (hstem : v.stem ≤ v.len)
    (w : WordShape) (hw : w ∈ r.title.words) (h5 : 5 ≤ w.len) (h3 : 3 ≤ distinctCard (wchars r.title w))
    (hed : Edit1 (wchars r.title w) (wchars q v)) :
    ∃ res ∈ st.search S Gen.srcConsts Gen.srcScoreOrder q,
      res.id = r.id ∧ res = st.render (scoreHit Gen.srcConsts Gen.srcScoreOrder q r) :=
  C04_single_edit_found S hS Gen.srcConsts costsOK_src typoNumsOK_src (by decide) (by decide) Gen.srcScoreOrder
    st hI hlim ix r hr hrt q hqt v hq hfin hstem w hw h5 h3 hed

theorem C04_single_edit_found_reachable_src (S : Sorter) (hS : SorterOK S) (ops : List StoreOp)
    (hops : ∀ id t rating, StoreOp.add id t rating ∈ ops → TextOK t)
    (hlim : ((Store.new Gen.srcConsts).run S Gen.srcConsts Gen.srcScoreOrder ops).records.length
              ≤ ((Store.new Gen.srcConsts).run S Gen.srcConsts Gen.srcScoreOrder ops).limit)
    (ix : Nat) (r : Record)
    (hr : ((Store.new Gen.srcConsts).run S Gen.srcConsts Gen.srcScoreOrder ops).records[ix]? = some r)
    (q : Text) (hqt : TextOK q) (v : WordShape) (hq : q.words = [v]) (hfin : v.fin = false)
    (hstem : v.stem ≤ v.len)
    (w : WordShape) (hw : w ∈ r.title.words) (h5 : 5 ≤ w.len) (h3 : 3 ≤ distinctCard (wchars r.title w))
    (hed : Edit1 (wchars r.title w) (wchars q v)) :
    ∃ res ∈ ((Store.new Gen.srcConsts).run S Gen.srcConsts Gen.srcScoreOrder ops).search S Gen.srcConsts
        Gen.srcScoreOrder q,
      res.id = r.id ∧
      res = ((Store.new Gen.srcConsts).run S Gen.srcConsts Gen.srcScoreOrder ops).render
              (scoreHit Gen.srcConsts Gen.srcScoreOrder q r) :=
  C04_single_edit_found_reachable S hS Gen.srcConsts costsOK_src typoNumsOK_src (by decide) (by decide)
    Gen.srcScoreOrder ops hops hlim ix r hr q hqt v hq hfin hstem w hw h5 h3 hed

/-- C04 at the generated constants, step lists and score order, in every language: `T` is any language table
    meeting `TablesOK` (decided for the seven generated languages in `Lemmas/Facts.lean`). -/
theorem C04_single_edit_found_tokenized_src (S : Sorter) (hS : SorterOK S)
    (U : Unicode) (T : LangTables) (stem : List Nat → Nat)
    (hU : UnicodeFacts U Gen.srcConsts) (hTb : TablesOK T = true) (hSt : StemHyp (Gen.srcProg.env U T stem))
    (ops : List StoreOp)
    (hops : ∀ id t rating, StoreOp.add id t rating ∈ ops →
      ∃ s, t = tokenizeRecord Gen.srcProg (Gen.srcProg.env U T stem) s)
    (hlim : ((Store.new Gen.srcConsts).run S Gen.srcConsts Gen.srcScoreOrder ops).records.length
              ≤ ((Store.new Gen.srcConsts).run S Gen.srcConsts Gen.srcScoreOrder ops).limit)
    (ix : Nat) (r : Record)
    (hr : ((Store.new Gen.srcConsts).run S Gen.srcConsts Gen.srcScoreOrder ops).records[ix]? = some r)
    (s : List Nat) (v : WordShape)
    (hq : (tokenizeQuery Gen.srcProg (Gen.srcProg.env U T stem) s).words = [v]) (hfin : v.fin = false)
    (w : WordShape) (hw : w ∈ r.title.words) (h5 : 5 ≤ w.len) (h3 : 3 ≤ distinctCard (wchars r.title w))
    (hed : Edit1 (wchars r.title w) (wchars (tokenizeQuery Gen.srcProg (Gen.srcProg.env U T stem) s) v)) :
    ∃ res ∈ ((Store.new Gen.srcConsts).run S Gen.srcConsts Gen.srcScoreOrder ops).search S Gen.srcConsts
        Gen.srcScoreOrder (tokenizeQuery Gen.srcProg (Gen.srcProg.env U T stem) s),
      res.id = r.id ∧
      res = ((Store.new Gen.srcConsts).run S Gen.srcConsts Gen.srcScoreOrder ops).render
              (scoreHit Gen.srcConsts Gen.srcScoreOrder (tokenizeQuery Gen.srcProg (Gen.srcProg.env U T stem) s) r) :=
  C04_single_edit_found_tokenized S hS (Gen.srcProg.env U T stem) hU hTb hSt costsOK_src typoNumsOK_src
    (show 1 ≤ Gen.srcConsts.sortFactor by decide) (show 1 ≤ Gen.srcConsts.prepFactor by decide) Gen.srcScoreOrder
    ops hops hlim ix r hr s v hq hfin w hw h5 h3 hed

namespace C04Example
open C13Example C03Example

/-! ### non-vacuity -/

/-- title "blue planet" -/
def pTitle : Text :=
  { words := [{ offset := 0, lo := 0, hi := 4, stem := 2, pos := none, fin := true },
              { offset := 1, lo := 5, hi := 11, stem := 3, pos := none, fin := true }],
    source := [66, 108, 117, 101, 32, 112, 108, 97, 110, 101, 116],
    chars := [98, 108, 117, 101, 32, 112, 108, 97, 110, 101, 116],
    classes := [.consonant, .consonant, .vowel, .vowel, .notAlpha, .consonant, .consonant, .vowel, .consonant,
                .vowel, .consonant] }

def pWord : WordShape := { offset := 1, lo := 5, hi := 11, stem := 3, pos := none, fin := true }

def pQuery (cs : List Nat) (stem : Nat) : Text :=
  { words := [{ offset := 0, lo := 0, hi := cs.length, stem := stem, pos := none, fin := false }],
    source := cs, chars := cs, classes := cs.map (fun _ => CharClass.consonant) }

def pRecord : Record := { ix := 0, id := 7, title := pTitle, rating := 0 }
def pStore : Store := (Store.new Gen.srcConsts).add 7 pTitle 0

theorem pTitle_ok : TextOK pTitle := by decide

theorem pQuery_ok (cs : List Nat) (hcs : cs ≠ []) (stem : Nat) (hs : 1 ≤ stem) : TextOK (pQuery cs stem) := by
  have hl : 0 < cs.length := List.length_pos_iff.mpr hcs
  refine ⟨by simp [pQuery], ?_, ?_, ?_, ?_⟩
  · intro i h; have : i = 0 := by simp [pQuery] at h; omega
    subst this; rfl
  · intro w hw; simp only [pQuery, List.mem_singleton] at hw; subst hw; exact ⟨hl, Nat.le_refl _⟩
  · intro i h; simp [pQuery] at h
  · intro w hw; simp only [pQuery, List.mem_singleton] at hw; subst hw; exact hs

theorem pStore_inv : StoreIndexInv pStore := (StoreIndexInv.new _).add 7 pTitle 0

/-- the hypotheses of `C04_single_edit_found_src` are met by the four typos "plonet" (substitution), "plannet"
    (insertion), "lanet" (deletion of the first letter), "palnet" (swap) against the title "blue planet" -/
example (cs : List Nat)
    (hcs : cs = [112, 108, 111, 110, 101, 116] ∨ cs = [112, 108, 97, 110, 110, 101, 116] ∨
           cs = [108, 97, 110, 101, 116] ∨ cs = [112, 97, 108, 110, 101, 116]) :
    ∃ res ∈ pStore.search exSorter Gen.srcConsts Gen.srcScoreOrder (pQuery cs 3), res.id = 7 ∧
      res = pStore.render (scoreHit Gen.srcConsts Gen.srcScoreOrder (pQuery cs 3) pRecord) := by
  have key := fun (cs : List Nat) (hne : cs ≠ []) (h3 : 3 ≤ cs.length)
      (hed : Edit1 (wchars pTitle pWord) (wchars (pQuery cs 3) (pQuery cs 3).words.head!)) =>
    C04_single_edit_found_src exSorter exSorter_ok pStore pStore_inv (by decide) 0 pRecord (by decide) pTitle_ok
      (pQuery cs 3) (pQuery_ok cs hne 3 (by decide)) _ rfl rfl (by simpa [pQuery, WordShape.len] using h3)
      pWord (by decide) (by decide) (by decide) hed
  rcases hcs with rfl | rfl | rfl | rfl
  · exact key _ (by decide) (by decide) (Edit1.sub [112, 108] [110, 101, 116] 97 111 (by decide))
  · exact key _ (by decide) (by decide) (Edit1.ins [112, 108, 97, 110] [101, 116] 110)
  · exact key _ (by decide) (by decide) (Edit1.del [] [108, 97, 110, 101, 116] 112)
  · exact key _ (by decide) (by decide) (Edit1.swap [112] [110, 101, 116] 108 97 (by decide))

/-- add "Blue planet", search once (filling the cache), lower the limit to 5 -/
def pOps : List StoreOp :=
  [.add 7 (tokenizeRecord Gen.srcProg exEnv [66, 108, 117, 101, 32, 112, 108, 97, 110, 101, 116]) 3,
   .search (tokenizeQuery Gen.srcProg exEnv []), .setLimit 5]

theorem pOps_ok : ∀ id t rating, StoreOp.add id t rating ∈ pOps → ∃ s, t = tokenizeRecord Gen.srcProg exEnv s := by
  intro id t rating hm
  simp only [pOps, List.mem_cons, StoreOp.add.injEq, List.not_mem_nil, or_false, reduceCtorEq] at hm
  exact ⟨_, hm.2.1⟩

theorem pTitle_tok :
    tokenizeRecord Gen.srcProg exEnv [66, 108, 117, 101, 32, 112, 108, 97, 110, 101, 116] = pTitle := by decide +kernel

/-- the hypotheses of `C04_single_edit_found_tokenized_src` are met by typing "plonet", "plannet", "lanet",
    "palnet" against "Blue planet" (toy ASCII oracle, English tables) -/
example (s : List Nat)
    (hs : s = [112, 108, 111, 110, 101, 116] ∨ s = [112, 108, 97, 110, 110, 101, 116] ∨
          s = [108, 97, 110, 101, 116] ∨ s = [112, 97, 108, 110, 101, 116]) :
    ∃ res ∈ ((Store.new Gen.srcConsts).run exSorter Gen.srcConsts Gen.srcScoreOrder pOps).search exSorter
        Gen.srcConsts Gen.srcScoreOrder (tokenizeQuery Gen.srcProg exEnv s), res.id = 7 := by
  -- one evaluation for the four texts: the kernel then builds the function-word map of `lang_en` once
  have htok : ∀ s ∈ [[112, 108, 111, 110, 101, 116], [112, 108, 97, 110, 110, 101, 116], [108, 97, 110, 101, 116],
        [112, 97, 108, 110, 101, 116]], tokenizeQuery Gen.srcProg (Gen.srcProg.env toyU Gen.lang_en toyStem) s =
      { words := [{ offset := 0, lo := 0, hi := s.length, stem := toyStem s, pos := none, fin := false }],
        source := s, chars := s, classes := s.map (classOf exEnv) } := by decide +kernel
  have key := fun s hm (hed : Edit1 (wchars pTitle pWord) s) =>
    (C04_single_edit_found_tokenized_src exSorter exSorter_ok toyU Gen.lang_en toyStem toyU_facts tablesOK_en
      (toyStemHyp _ (by decide)) pOps pOps_ok (by decide : (1 : Nat) ≤ 5) 0
      { ix := 0, id := 7, title := tokenizeRecord Gen.srcProg exEnv [66, 108, 117, 101, 32, 112, 108, 97, 110, 101, 116],
        rating := 3 }
      rfl s _ (congrArg Text.words (htok s hm)) rfl pWord (by rw [pTitle_tok]; decide) (by decide)
      (by rw [pTitle_tok]; decide)
      (by rw [pTitle_tok, htok s hm]; show Edit1 _ (slice s 0 s.length)
          rw [slice_full]; exact hed)).imp fun _ h => And.intro h.1 h.2.1
  rcases hs with rfl | rfl | rfl | rfl
  · exact key [112, 108, 111, 110, 101, 116] (by decide) (Edit1.sub [112, 108] [110, 101, 116] 97 111 (by decide))
  · exact key [112, 108, 97, 110, 110, 101, 116] (by decide) (Edit1.ins [112, 108, 97, 110] [101, 116] 110)
  · exact key [108, 97, 110, 101, 116] (by decide) (Edit1.del [] [108, 97, 110, 101, 116] 112)
  · exact key [112, 97, 108, 110, 101, 116] (by decide) (Edit1.swap [112] [110, 101, 116] 108 97 (by decide))

end C04Example

end Lucid
