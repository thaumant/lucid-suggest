/-
  C12 — a query without any letter or digit (no word after tokenisation: `q.words = []`) lists the best-rated
  records, unhighlighted. The helper lemmas live in LucidProofs/Lemmas/{Store,TopK}.lean.

  Vocabulary (Lemmas/Store.lean):
  * `StoreInv S K st`        — the invariant of every reachable store (C10_invariant);
  * `st.listed S K order q`  — the records behind the hits returned by `st.search S K order q`, in result order;
  * `plainTitle t`           — what `highlight` produces for a title without any match: no marker is inserted;
                               equal to the source text minus NUL padding when the word slices are well-formed;
  * `plainLe a b`            — higher rating first, then fewer words, then fewer characters.
-/
import LucidModel.Gen.Consts
import LucidProofs.Lemmas.Store
import LucidProofs.Lemmas.Highlight

namespace Lucid

/-- The hits of an empty query are the listed records, each rendered WITHOUT highlighting: the title is
    `plainTitle` of the record's title, whatever the markers are. -/
theorem C12_results (S : Sorter) (hS : SorterOK S) (K : Consts) (hK : 1 ≤ K.sortFactor) (order : List ScoreType)
    (st : Store) (h : StoreInv S K st) (q : Text) (hq : q.words = []) :
    st.search S K order q =
      (st.listed S K order q).map (fun r => ({ id := r.id, title := plainTitle r.title } : Result)) :=
  search_empty hS order st q hq

/-- `plainTitle` is the source text with the NUL padding removed, provided the word slices of the title are
    well-formed (`hlSafe`, the model's bounds predicate of `highlight`, with no match). -/
theorem C12_plain_title (t : Text) (ht : hlSafe t.source [] t.words 0 0 = true) :
    plainTitle t = t.source.filter (· != 0) := by rw [plainTitle, hlWalk_nil_markers ht]

/-- No highlighting: changing the markers does not change the answer to an empty query. -/
theorem C12_markers_irrelevant (S : Sorter) (hS : SorterOK S) (K : Consts) (hK : 1 ≤ K.sortFactor)
    (order : List ScoreType) (st : Store) (h : StoreInv S K st) (q : Text) (hq : q.words = []) (l r : List Nat) :
    (st.setDividers l r).search S K order q = st.search S K order q := by
  rw [C12_results S hS K hK order _ (StoreInv_setDividers h l r) q hq, C12_results S hS K hK order st h q hq,
    listed_setDividers]

/-- The candidates of an empty query are a bounded top-`limit` selection (`TopK`) of the records under
    "rating descending, then normalised title ascending" (`topLe`) – whether they come from the cache or are
    computed now – and each of them becomes a scored hit (none is filtered out). -/
theorem C12_candidates (S : Sorter) (hS : SorterOK S) (K : Consts) (hK : 1 ≤ K.sortFactor) (order : List ScoreType)
    (st : Store) (h : StoreInv S K st) (q : Text) (hq : q.words = []) :
    ∃ cand : List Record, TopK topLe st.limit st.records cand ∧
      (st.candidatesM S K q).1 = cand.map (·.ix) ∧
      st.hitsOf K order q (st.candidatesM S K q).1 = cand.map (scoreHit K order q) :=
  ⟨st.cand S K, cand_TopK S hS K st, candidatesM_empty h q hq, hitsOf_empty hS h q hq order⟩

/-- Every candidate passes the filter and `text_match` finds nothing to highlight. -/
theorem C12_no_matches (K : Consts) (order : List ScoreType) (q : Text) (hq : q.words = []) (r : Record) :
    hitMatches q (scoreHit K order q r) = true ∧ (scoreHit K order q r).rmatches = [] ∧
    (scoreHit K order q r).qmatches = [] := by
  refine ⟨hitMatches_empty_query _ (by simp [hq]), ?_, ?_⟩ <;> simp [scoreHit_noWords K order q hq]

/-- An empty query returns exactly `min(limit, number of records)` hits. -/
theorem C12_length (S : Sorter) (hS : SorterOK S) (K : Consts) (hK : 1 ≤ K.sortFactor) (order : List ScoreType)
    (st : Store) (h : StoreInv S K st) (q : Text) (hq : q.words = []) :
    (st.search S K order q).length = min st.limit st.records.length := by
  rw [C12_results S hS K hK order st h q hq, List.length_map,
    (listed_perm_cand hS h q hq order).length_eq, (cand_TopK S hS K st).2.1]

/-- The listed records are records of the store, each at most as often as it is stored; the others are `omitted`.
    No omitted record has a higher rating than a listed one; at equal rating the omitted record's normalised title
    is not before the listed one's in code-point order (`charsLe listed omitted`). -/
theorem C12_omitted_not_better (S : Sorter) (hS : SorterOK S) (K : Consts) (hK : 1 ≤ K.sortFactor)
    (order : List ScoreType) (st : Store) (h : StoreInv S K st) (q : Text) (hq : q.words = []) :
    ∃ omitted : List Record, (st.listed S K order q ++ omitted).Perm st.records ∧
      ∀ l ∈ st.listed S K order q, ∀ o ∈ omitted,
        o.rating ≤ l.rating ∧ (o.rating = l.rating → charsLe l.title.chars o.title.chars = true) := by
  obtain ⟨_, _, rest, hp, hc⟩ := cand_TopK S hS K st
  have hl := listed_perm_cand hS h q hq order
  refine ⟨rest, (List.Perm.append_right rest hl).trans hp, fun l hlm o ho => ?_⟩
  have := hc l (hl.mem_iff.mp hlm) o ho
  rw [topLe_eq, scoresLe_cons, ← charsLe_eq] at this
  rcases this with hlt | ⟨e, hch⟩
  · exact ⟨by omega, fun e => by omega⟩
  · exact ⟨by omega, fun _ => hch⟩

/-- With the score order of the source, the hits are sorted: rating never increases down the list; among equal
    ratings titles with fewer words come first, then titles with fewer characters. -/
theorem C12_sorted (S : Sorter) (hS : SorterOK S) (K : Consts) (hK : 1 ≤ K.sortFactor)
    (st : Store) (h : StoreInv S K st) (q : Text) (hq : q.words = []) :
    (st.listed S K Gen.srcScoreOrder q).Pairwise plainLe :=
  (listed_TopK hS Gen.srcScoreOrder st q).1.imp (fun {a b} hab => (hitLe_empty_iff K q hq a b).mp hab)

/-- Ratings never increase down the list. -/
theorem C12_ratings_antitone (S : Sorter) (hS : SorterOK S) (K : Consts) (hK : 1 ≤ K.sortFactor)
    (st : Store) (h : StoreInv S K st) (q : Text) (hq : q.words = []) :
    (st.listed S K Gen.srcScoreOrder q).Pairwise (fun a b => b.rating ≤ a.rating) :=
  (C12_sorted S hS K hK st h q hq).imp (fun {a b} hab => by
    rcases hab with hlt | ⟨he, _⟩ <;> omega)

def ratingGe (a b : Record) : Bool := decide (b.rating ≤ a.rating)

theorem ratingGe_preorder : Preorder' ratingGe :=
  ⟨fun a b c h1 h2 => by simp only [ratingGe, decide_eq_true_eq] at *; omega,
   fun a b => by simp only [ratingGe, decide_eq_true_eq]; omega⟩

/-- With pairwise distinct ratings the list is exactly the `limit` best-rated records in descending order:
    the first `limit` elements of the records sorted by rating (descending). -/
theorem C12_distinct_exact (S : Sorter) (hS : SorterOK S) (K : Consts) (hK : 1 ≤ K.sortFactor)
    (st : Store) (h : StoreInv S K st) (q : Text) (hq : q.words = [])
    (hd : st.records.Pairwise (fun a b => a.rating ≠ b.rating)) :
    st.listed S K Gen.srcScoreOrder q = (st.records.mergeSort ratingGe).take st.limit := by
  obtain ⟨omitted, hp, hc⟩ := C12_omitted_not_better S hS K hK Gen.srcScoreOrder st h q hq
  refine TopK.eq_take ratingGe_preorder
    (TopK.noTies_of_key (·.rating) (fun a b => by simp only [ratingGe, decide_eq_true_eq]; omega) hd)
    ⟨?_, ?_, omitted, hp, fun l hl o ho => by simpa [ratingGe] using (hc l hl o ho).1⟩
    ((mergeSorter_ok _ ratingGe_preorder).2 st.records) ((mergeSorter_ok _ ratingGe_preorder).1 st.records)
  · exact (C12_ratings_antitone S hS K hK st h q hq).imp (fun {a b} hab => by simpa [ratingGe] using hab)
  · rw [(listed_perm_cand hS h q hq Gen.srcScoreOrder).length_eq, (cand_TopK S hS K st).2.1]

/-- … and the returned hits are those records, unhighlighted, in that order. -/
theorem C12_distinct_exact_results (S : Sorter) (hS : SorterOK S) (K : Consts) (hK : 1 ≤ K.sortFactor)
    (st : Store) (h : StoreInv S K st) (q : Text) (hq : q.words = [])
    (hd : st.records.Pairwise (fun a b => a.rating ≠ b.rating)) :
    st.search S K Gen.srcScoreOrder q =
      ((st.records.mergeSort ratingGe).take st.limit).map
        (fun r => ({ id := r.id, title := plainTitle r.title } : Result)) := by
  rw [C12_results S hS K hK Gen.srcScoreOrder st h q hq, C12_distinct_exact S hS K hK st h q hq hd]

/-- The list always reflects the records currently in the store: all of the above applies to the store reached
    by ANY sequence of adds, clears, limit / marker changes and searches (the invariant is C10's), e.g. the
    number of hits is `min(limit, number of records currently held)`. -/
theorem C12_reachable_length (S : Sorter) (hS : SorterOK S) (K : Consts) (hK : 1 ≤ K.sortFactor)
    (order : List ScoreType) (ops : List StoreOp) (q : Text) (hq : q.words = []) :
    ((Store.run S K order (Store.new K) ops).search S K order q).length =
      min (Store.run S K order (Store.new K) ops).limit (Store.run S K order (Store.new K) ops).records.length :=
  C12_length S hS K hK order _ (StoreInv_reachable S K order ops) q hq

theorem C12_length_src (S : Sorter) (hS : SorterOK S) (ops : List StoreOp) (q : Text) (hq : q.words = []) :
    ((Store.run S Gen.srcConsts Gen.srcScoreOrder (Store.new Gen.srcConsts) ops).search S Gen.srcConsts
        Gen.srcScoreOrder q).length =
      min (Store.run S Gen.srcConsts Gen.srcScoreOrder (Store.new Gen.srcConsts) ops).limit
          (Store.run S Gen.srcConsts Gen.srcScoreOrder (Store.new Gen.srcConsts) ops).records.length :=
  C12_reachable_length S hS Gen.srcConsts (by decide) Gen.srcScoreOrder ops q hq

theorem C12_ratings_antitone_src (S : Sorter) (hS : SorterOK S) (ops : List StoreOp) (q : Text) (hq : q.words = []) :
    ((Store.run S Gen.srcConsts Gen.srcScoreOrder (Store.new Gen.srcConsts) ops).listed S Gen.srcConsts
        Gen.srcScoreOrder q).Pairwise (fun a b => b.rating ≤ a.rating) :=
  C12_ratings_antitone S hS Gen.srcConsts (by decide) _ (StoreInv_reachable S _ _ ops) q hq

theorem C12_omitted_not_better_src (S : Sorter) (hS : SorterOK S) (ops : List StoreOp) (q : Text) (hq : q.words = []) :
    let st := Store.run S Gen.srcConsts Gen.srcScoreOrder (Store.new Gen.srcConsts) ops
    ∃ omitted : List Record, (st.listed S Gen.srcConsts Gen.srcScoreOrder q ++ omitted).Perm st.records ∧
      ∀ l ∈ st.listed S Gen.srcConsts Gen.srcScoreOrder q, ∀ o ∈ omitted,
        o.rating ≤ l.rating ∧ (o.rating = l.rating → charsLe l.title.chars o.title.chars = true) :=
  C12_omitted_not_better S hS Gen.srcConsts (by decide) _ _ (StoreInv_reachable S _ _ ops) q hq

theorem C12_distinct_exact_src (S : Sorter) (hS : SorterOK S) (ops : List StoreOp) (q : Text) (hq : q.words = []) :
    let st := Store.run S Gen.srcConsts Gen.srcScoreOrder (Store.new Gen.srcConsts) ops
    st.records.Pairwise (fun a b => a.rating ≠ b.rating) →
    st.search S Gen.srcConsts Gen.srcScoreOrder q =
      ((st.records.mergeSort ratingGe).take st.limit).map
        (fun r => ({ id := r.id, title := plainTitle r.title } : Result)) :=
  fun hd => C12_distinct_exact_results S hS Gen.srcConsts (by decide) _ (StoreInv_reachable S _ _ ops) q hq hd

/-! ### non-vacuity: merge sort meets `SorterOK`; a store with three distinct ratings and limit 2 -/

private def exT (c : Nat) : Text := { words := [⟨0, 0, 1, 1, none, true⟩], source := [c, 0], chars := [c], classes := [.any] }
private def exQ : Text := { words := [], source := [33], chars := [33], classes := [.any] }
private def exOps : List StoreOp := [.add 7 (exT 97) 3, .add 8 (exT 98) 9, .search exQ, .add 9 (exT 99) 5, .setLimit 2]

example : SorterOK mergeSorter := mergeSorter_ok
example : 1 ≤ Gen.srcConsts.sortFactor := by decide
example : exQ.words = [] := rfl
example : hlSafe (exT 97).source [] (exT 97).words 0 0 = true := by decide
example : (Store.run mergeSorter Gen.srcConsts Gen.srcScoreOrder (Store.new Gen.srcConsts) exOps).records.Pairwise
    (fun a b => a.rating ≠ b.rating) := by decide
-- #eval (Store.run mergeSorter Gen.srcConsts Gen.srcScoreOrder (Store.new Gen.srcConsts) exOps).search mergeSorter
--   Gen.srcConsts Gen.srcScoreOrder exQ   -- [{ id := 8, title := [98] }, { id := 9, title := [99] }]

end Lucid
