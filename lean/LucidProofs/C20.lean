/-
  C20 — through the top-level API every store id behaves as an independent store.
  Statements (and `lastResults_no_nul`, a step of the framing theorem); helper lemmas live in
  LucidProofs/Lemmas/{Registry,Store}.lean.

  Vocabulary (defined in Lemmas/Registry.lean):
  * `Registry.run S P envs g ops`      — execute the calls `ops` one after the other;
  * `Registry.allValid S P envs g ops` — every call is valid at the moment it is executed (`RegOp.valid`:
                                          no duplicate create, no use of a missing id);
  * `proj P envs id ops`               — `none` if `id` is not live after `ops`, else `some (lang, sops)`: the
                                          language of its last `create` and the calls addressed to it since then,
                                          as stand-alone `StoreOp`s (texts tokenised for `lang`; a
                                          `clearStore id` = `using_store(id, |s| s.clear())` becomes `StoreOp.clear`);
  * `runOne S P sops`                  — `sops` run on `Store::new()`: the stand-alone store;
  * `lastResults S P sops`             — the hits of the last search in `sops`, computed by the stand-alone
                                          store at that moment (`[]` if there was none).
-/
import LucidModel.Gen.Consts
import LucidProofs.Lemmas.Registry
import LucidProofs.C02

namespace Lucid

/-- ISOLATION. After any sequence of valid top-level calls, for every id: the store map holds nothing for an id
    that is not live, and otherwise exactly the stand-alone store obtained by running only the calls addressed
    to that id since its last `create`; the result buffer holds exactly the hits of the last search run on that
    id since its creation, as computed by that stand-alone store at that moment (`[]` if none). Calls on
    other ids do not occur in either expression. Holds for every sorting routine. -/
theorem C20_isolation (S : Sorter) (P : Prog) (envs : Nat → Env) (ops : List RegOp)
    (hv : Registry.allValid S P envs Registry.empty ops = true) (id : Nat) :
    amGet (Registry.empty.run S P envs ops).stores id =
        (proj P envs id ops).map (fun x => (x.1, runOne S P x.2)) ∧
    amGet (Registry.empty.run S P envs ops).results id =
        (proj P envs id ops).map (fun x => lastResults S P x.2) :=
  Sim_run S P envs id ops Registry.empty none (Sim_empty S P id) hv

/-- `C20_isolation` spelled out for an id that is not live: no store, no buffer. -/
theorem C20_isolation_dead (S : Sorter) (P : Prog) (envs : Nat → Env) (ops : List RegOp)
    (hv : Registry.allValid S P envs Registry.empty ops = true) (id : Nat) (hp : proj P envs id ops = none) :
    amGet (Registry.empty.run S P envs ops).stores id = none ∧
    amGet (Registry.empty.run S P envs ops).results id = none := by
  have := C20_isolation S P envs ops hv id
  rw [hp] at this; exact this

/-- `C20_isolation` spelled out for a live id. -/
theorem C20_isolation_live (S : Sorter) (P : Prog) (envs : Nat → Env) (ops : List RegOp)
    (hv : Registry.allValid S P envs Registry.empty ops = true) (id lang : Nat) (sops : List StoreOp)
    (hp : proj P envs id ops = some (lang, sops)) :
    amGet (Registry.empty.run S P envs ops).stores id = some (lang, runOne S P sops) ∧
    amGet (Registry.empty.run S P envs ops).results id = some (lastResults S P sops) := by
  have := C20_isolation S P envs ops hv id
  rw [hp] at this; exact this

/-- What the buffer holds right after `run_search(id, query)`: exactly what a NEWLY CONSTRUCTED store with the
    same language, the records currently held by `id` (same order), its current limit and markers returns for
    that query (C10 applied to the stand-alone store). -/
theorem C20_search_is_fresh_store (S : Sorter) (P : Prog) (envs : Nat → Env) (ops : List RegOp) (id : Nat)
    (query : List Nat)
    (hv : Registry.allValid S P envs Registry.empty (ops ++ [RegOp.runSearch id query]) = true)
    (lang : Nat) (sops : List StoreOp) (hp : proj P envs id ops = some (lang, sops)) :
    amGet (Registry.empty.run S P envs (ops ++ [RegOp.runSearch id query])).results id =
      some ((Store.rebuild P.K (runOne S P sops)).search S P.K P.order (tokenizeQuery P (envs lang) query)) := by
  rw [(C20_isolation_live S P envs _ hv id lang _ (proj_snoc_search P envs id ops query lang sops hp)).2,
    lastResults_snoc]
  exact congrArg some (search_eq_rebuild (StoreInv_reachable S P.K P.order sops) P.order _)

/-- A call addressed to another id leaves this id's store and result buffer unchanged (valid call or not). -/
theorem C20_other_id_untouched (S : Sorter) (P : Prog) (envs : Nat → Env) (g : Registry) (op : RegOp) (j : Nat)
    (hj : op.target ≠ j) :
    amGet (g.step S P envs op).stores j = amGet g.stores j ∧
    amGet (g.step S P envs op).results j = amGet g.results j :=
  step_other S P envs g op j hj

/-- The same for any number of calls none of which addresses `j`. -/
theorem C20_other_ids_untouched (S : Sorter) (P : Prog) (envs : Nat → Env) (g : Registry) (ops : List RegOp) (j : Nat)
    (hj : ∀ op ∈ ops, op.target ≠ j) :
    amGet (g.run S P envs ops).stores j = amGet g.stores j ∧
    amGet (g.run S P envs ops).results j = amGet g.results j :=
  ⟨run_preserves S P envs (fun g => amGet g.stores j) ops (fun op ho g => (step_other S P envs g op j (hj op ho)).1) g,
   run_preserves S P envs (fun g => amGet g.results j) ops (fun op ho g => (step_other S P envs g op j (hj op ho)).2) g⟩

/-- Later `add_record` / `set_limit` / `highlight_with` calls (on any id, the same one included) do not touch
    any result buffer: the buffer keeps the hits of the last search. -/
theorem C20_results_stable (S : Sorter) (P : Prog) (envs : Nat → Env) (g : Registry) (op : RegOp)
    (hop : (∃ id recId title rating, op = .addRecord id recId title rating) ∨ (∃ id n, op = .setLimit id n) ∨
           (∃ id l r, op = .highlightWith id l r)) :
    (g.step S P envs op).results = g.results := by
  unfold Registry.step
  split
  · rfl
  · rcases hop with ⟨_, _, _, _, rfl⟩ | ⟨_, _, rfl⟩ | ⟨_, _, _, rfl⟩ <;> simp only <;> split <;> rfl

/-- CLEARING ONE ID'S STORE (`using_store(id, |s| s.clear())`, reachable through the Rust API only). The call
    * leaves the store of every other id unchanged,
    * leaves the whole result-buffer map unchanged — the buffer of `id` included: it keeps the hits of the last
      `run_search(id, ·)` until the next one, exactly as the Rust code does,
    * replaces the store `st` held for `id` by `Store.clear st` (no records, position counter 0, empty index, no
      cache; limit and markers kept) and keeps the language it was created with,
    * and does nothing at all when `id` has no store (the invalid call).
    Holds in every registry state, for every program, family of environments and sorting routine. -/
theorem C20_clear_isolated (S : Sorter) (P : Prog) (envs : Nat → Env) (g : Registry) (id : Nat) :
    (∀ j, j ≠ id → amGet (g.step S P envs (.clearStore id)).stores j = amGet g.stores j) ∧
    (g.step S P envs (.clearStore id)).results = g.results ∧
    (∀ lang st, amGet g.stores id = some (lang, st) →
      amGet (g.step S P envs (.clearStore id)).stores id = some (lang, st.clear)) ∧
    (amGet g.stores id = none → g.step S P envs (.clearStore id) = g) := by
  refine ⟨fun j hj => (step_other S P envs g (.clearStore id) j (fun e => hj e.symm)).1, ?_, ?_, ?_⟩
  · unfold Registry.step
    split
    · rfl
    · simp only; split <;> rfl
  · intro lang st hs
    simp [Registry.step, RegOp.valid, hs, amGet_amSet]
  · intro hs
    simp [Registry.step, RegOp.valid, hs]

/-- `C20_clear_isolated` read through the bridge: `get_result_ids` / `get_result_titles` of every id (the cleared one
    included) return after the call what they returned before. -/
theorem C20_clear_bridge_unchanged (S : Sorter) (P : Prog) (envs : Nat → Env) (g : Registry) (id j : Nat) :
    getResultIds (g.step S P envs (.clearStore id)) j = getResultIds g j ∧
    getResultTitles (g.step S P envs (.clearStore id)) j = getResultTitles g j := by
  simp only [getResultIds, getResultTitles, (C20_clear_isolated S P envs g id).2.1, and_self]

/-- A destroyed id can be created again and starts empty: a new store (default limit and markers, no records,
    empty index, no cache) for the requested language and an empty result buffer. -/
theorem C20_recreate_fresh (S : Sorter) (P : Prog) (envs : Nat → Env) (g : Registry) (id lang : Nat) :
    let g' := (g.step S P envs (.destroy id)).step S P envs (.create id lang)
    (RegOp.create id lang).valid (g.step S P envs (.destroy id)) = true →
    amGet g'.stores id = some (lang, Store.new P.K) ∧ amGet g'.results id = some [] := by
  exact step_create S P envs _ id lang

/-- After a valid `destroy(id)` the id is free: `create(id, ·)` is a valid call again. -/
theorem C20_destroy_frees (S : Sorter) (P : Prog) (envs : Nat → Env) (g : Registry) (id lang : Nat)
    (hv : (RegOp.destroy id).valid g = true) :
    (RegOp.create id lang).valid (g.step S P envs (.destroy id)) = true := by
  have hv' := hv
  simp only [RegOp.valid] at hv'
  simp [Registry.step, RegOp.valid, hv', amGet_amDel]

/-- `destroy` then `create` in one statement. -/
theorem C20_recreate_fresh' (S : Sorter) (P : Prog) (envs : Nat → Env) (g : Registry) (id lang : Nat)
    (hv : (RegOp.destroy id).valid g = true) :
    amGet ((g.step S P envs (.destroy id)).step S P envs (.create id lang)).stores id = some (lang, Store.new P.K) ∧
    amGet ((g.step S P envs (.destroy id)).step S P envs (.create id lang)).results id = some [] :=
  C20_recreate_fresh S P envs g id lang (C20_destroy_frees S P envs g id lang hv)

/-! ### the WASM bridge -/

/-- No title returned by a search contains NUL (the last step of `highlight` filters it out). -/
theorem C20_titles_no_nul (S : Sorter) (K : Consts) (order : List ScoreType) (st : Store) (q : Text) :
    ∀ r ∈ st.search S K order q, 0 ∉ r.title := C02_no_nul S K order st q

theorem lastResults_no_nul (S : Sorter) (P : Prog) (sops : List StoreOp) : ∀ r ∈ lastResults S P sops, 0 ∉ r.title := by
  rw [← sops.reverse_reverse]
  induction sops.reverse with
  | nil => exact fun _ h => nomatch h
  | cons op ops ih =>
    rw [List.reverse_cons, lastResults_snoc]
    cases op <;> first | exact ih | exact C02_no_nul _ _ _ _ _

/-- Framing, general form: if no buffered title contains NUL, splitting the concatenated string at NUL gives back
    exactly the titles, in order, followed by one empty string (which the JavaScript side discards). -/
theorem C20_bridge_framing (g : Registry) (id : Nat)
    (h : ∀ r ∈ (amGet g.results id).getD [], 0 ∉ r.title) :
    splitNul (getResultTitles g id) = ((amGet g.results id).getD []).map (·.title) ++ [[]] := by
  unfold getResultTitles
  have := splitNul_frames (((amGet g.results id).getD []).map (·.title)) (by simpa using h)
  simpa [List.map_map, Function.comp_def] using this

/-- Framing for every state reachable by valid calls: `get_result_ids` are the ids of the buffered hits and
    `get_result_titles(..).split('\0')` are their titles followed by one empty string – no hypothesis on titles. -/
theorem C20_bridge_reachable (S : Sorter) (P : Prog) (envs : Nat → Env) (ops : List RegOp)
    (hv : Registry.allValid S P envs Registry.empty ops = true) (id lang : Nat) (sops : List StoreOp)
    (hp : proj P envs id ops = some (lang, sops)) :
    getResultIds (Registry.empty.run S P envs ops) id = (lastResults S P sops).map (·.id) ∧
    splitNul (getResultTitles (Registry.empty.run S P envs ops) id) = (lastResults S P sops).map (·.title) ++ [[]] := by
  have hr := (C20_isolation_live S P envs ops hv id lang sops hp).2
  refine ⟨by simp [getResultIds, hr], ?_⟩
  have := C20_bridge_framing (Registry.empty.run S P envs ops) id
    (by rw [hr]; exact lastResults_no_nul S P sops)
  rw [hr] at this
  exact this

theorem C20_isolation_src (S : Sorter) (envs : Nat → Env) (ops : List RegOp)
    (hv : Registry.allValid S Gen.srcProg envs Registry.empty ops = true) (id : Nat) :
    amGet (Registry.empty.run S Gen.srcProg envs ops).stores id =
        (proj Gen.srcProg envs id ops).map (fun x => (x.1, runOne S Gen.srcProg x.2)) ∧
    amGet (Registry.empty.run S Gen.srcProg envs ops).results id =
        (proj Gen.srcProg envs id ops).map (fun x => lastResults S Gen.srcProg x.2) :=
  C20_isolation S Gen.srcProg envs ops hv id

/-! ### non-vacuity: a valid call sequence with two interleaved ids, a destroy and a re-create -/

private def exS : Sorter := ⟨fun _ l => l⟩
private def exU : Unicode := ⟨fun _ => true, fun _ => false, fun c => c == 32, fun _ => false, fun _ => false, id⟩
private def exEnvs : Nat → Env := fun _ => ⟨exU, Gen.srcConsts, ⟨[], [], [], [], false⟩, fun w => w.length⟩
private def exOps : List RegOp :=
  [.create 1 0, .create 2 0, .addRecord 1 10 [97] 5, .runSearch 1 [], .addRecord 2 20 [98] 1, .setLimit 1 3,
   .highlightWith 2 [60] [62], .destroy 1, .create 1 0, .runSearch 2 [98]]

example : Registry.allValid exS Gen.srcProg exEnvs Registry.empty exOps = true := by decide +kernel
example : (proj Gen.srcProg exEnvs 1 exOps).map (·.2.length) = some 0 := by decide +kernel
example : (proj Gen.srcProg exEnvs 2 exOps).map (·.2.length) = some 3 := by decide +kernel

/-- a valid call list with a `clearStore`: id 1 holds one record and a buffered hit, is cleared (buffer kept, store
    emptied, id 2 untouched), receives another record -/
private def exOpsClear : List RegOp :=
  [.create 1 0, .create 2 0, .addRecord 1 10 [97] 5, .addRecord 2 20 [98] 1, .runSearch 1 [], .clearStore 1,
   .addRecord 1 11 [99] 2]

example : Registry.allValid exS Gen.srcProg exEnvs Registry.empty exOpsClear = true := by decide +kernel
example : (proj Gen.srcProg exEnvs 1 exOpsClear).map (·.2) =
    some [.add 10 (tokenizeRecord Gen.srcProg (exEnvs 0) [97]) 5, .search (tokenizeQuery Gen.srcProg (exEnvs 0) []),
      .clear, .add 11 (tokenizeRecord Gen.srcProg (exEnvs 0) [99]) 2] := by decide +kernel
example : ((amGet (Registry.empty.run exS Gen.srcProg exEnvs exOpsClear).stores 1).map (·.2.records.map (·.id)),
    (amGet (Registry.empty.run exS Gen.srcProg exEnvs exOpsClear).results 1).map (·.map (·.id))) =
    (some [11], some [10]) := by decide +kernel

end Lucid
