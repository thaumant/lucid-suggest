/-
  API — the store-level theorems restated as contracts of the top-level API (`lib.rs` + the WASM bridge): the
  calls `create`, `destroy`, `highlight_with`, `add_record`, `set_limit`, `run_search`, `get_result_ids`,
  `get_result_titles` on RAW strings (model: `Registry.step` / `RegOp`, `getResultIds`, `getResultTitles`,
  `splitNul`). Statements with short proofs; the glue lemmas are in `Lemmas/ApiLift.lean`.

  Setting of every theorem: the program generated from the source (`Gen.srcProg`); any family of language
  environments `envs : Nat → Env` meeting `EnvsOK` (generated constants, `UnicodeFacts`, `TablesOK`, `StemHyp` for
  every language index); any call list `ops` every call of which is valid when it is executed
  (`Registry.allValid … Registry.empty ops = true`: no duplicate `create`, no use of a missing id); the registry
  `g = Registry.empty.run … ops` reached by it.

  How "since the creation of `id`" is said: the call list is written
        `pre ++ create id lang :: post`                      with no `destroy id` / `create id` in `post`
  (`RegOp.keeps id`), and, for statements about the buffer,
        `pre ++ create id lang :: post ++ runSearch id q :: later`
  with, in addition, no `runSearch id` / `destroy id` / `create id` in `later` (`RegOp.quiet id`): `post` are the
  calls between the creation and the LAST search on `id`, `later` what happened since. By `api_live_shape` every
  live id has a call list of the first shape, so nothing is lost. Read off `post`:
  `addedOf id post` (the `(recId, raw title, rating)` of the `add_record` calls on `id` made since the last
  `clearStore id` in `post`, all of them if there is none), `limitOf id post` (last `set_limit` on `id`, default 10)
  and `markersOf id post` (last `highlight_with` on `id`, default `[` `]`).

  `clearStore id` is `using_store(id, |s| s.clear())`: reachable through the Rust API, not through the WASM bridge.
  It empties the store of `id`, keeps its limit, markers and language, and does not touch any result buffer; it
  may occur anywhere in `pre`, `post`, `later` (it is neither a `destroy`/`create` nor a search).
-/
import LucidProofs.C01
import LucidProofs.C02b
import LucidProofs.C06
import LucidProofs.C12
import LucidProofs.Lemmas.ApiLift

namespace Lucid

/-- Every live id has a call list of the shape used below: if the store map holds something for `id` after a valid
    call list, the list is `pre ++ create id lang :: post` with no `destroy id` / `create id` in `post`, and the
    store held for `id` is `Store::new()` followed by the calls of `post` addressed to `id` (titles and queries
    tokenised for `lang`). -/
theorem api_live_shape (S : Sorter) (envs : Nat → Env) (hE : EnvsOK envs) (ops : List RegOp)
    (hv : Registry.allValid S Gen.srcProg envs Registry.empty ops = true) (id lang : Nat) (st : Store)
    (h : amGet (Registry.empty.run S Gen.srcProg envs ops).stores id = some (lang, st)) :
    ∃ pre post, ops = pre ++ RegOp.create id lang :: post ∧ (∀ op ∈ post, op.keeps id = true) ∧
      st = runOne S Gen.srcProg (storeOpsOf Gen.srcProg (envs lang) id post) := by
  obtain ⟨⟨_, sops⟩, hp, hx⟩ :=
    Option.map_eq_some_iff.1 ((C20_isolation S Gen.srcProg envs ops hv id).1.symm.trans h)
  cases hx
  obtain ⟨pre, post, e, hk, rfl⟩ := (proj_eq_some_iff Gen.srcProg envs id ops _ sops).mp hp
  exact ⟨pre, post, e, hk, rfl⟩

/-- no trap site of the model fires during this top-level call in registry state `g`: creation, destruction, limit
    and marker changes have none; `add_record` runs the record pipeline on the raw title and `Store::add` on the
    addressed store; `run_search` runs the query pipeline on the raw query and `Store::search` on the addressed
    store. A call on a missing id (an `unwrap` of the id map in `lib.rs`) counts as unsafe. -/
def RegOp.safe (S : Sorter) (P : Prog) (envs : Nat → Env) (g : Registry) : RegOp → Bool
  | .addRecord id _ title _ =>
    match amGet g.stores id with
    | some (lang, st) =>
      runStepsSafe (envs lang) P.recordSteps title && st.addSafe (tokenizeRecord P (envs lang) title)
    | none => false
  | .runSearch id query =>
    match amGet g.stores id with
    | some (lang, st) =>
      runStepsSafe (envs lang) P.querySteps query &&
        st.searchSafe S P.K P.order (tokenizeQuery P (envs lang) query)
    | none => false
  | _ => true

/-- every call of the list is safe in the registry state it is executed in -/
def Registry.runSafe (S : Sorter) (P : Prog) (envs : Nat → Env) : Registry → List RegOp → Bool
  | _, [] => true
  | g, op :: ops => op.safe S P envs g && Registry.runSafe S P envs (g.step S P envs op) ops

/-- **C01 at the top-level API.** Along every valid call list, every call is safe at the moment it is executed:
    whatever ids, languages, raw titles, raw queries, limits and markers are used, and however the calls on
    different ids are interleaved, no trap site of `LucidModel/Safe.lean` fires in the tokenizer, in `Store::add`
    or in `Store::search` (list of trap sites: see `C01_api_safe_src`). `op` is any call of the list, `pre` the
    calls before it. Not covered: calls that are not valid (`unwrap` on an unknown id, duplicate `create`).
    Hypotheses: `SorterOK S`, `EnvsOK envs`. -/
theorem C01_api_registry_safe (S : Sorter) (hS : SorterOK S) (envs : Nat → Env) (hE : EnvsOK envs)
    (ops : List RegOp) (hv : Registry.allValid S Gen.srcProg envs Registry.empty ops = true)
    (pre : List RegOp) (op : RegOp) (post : List RegOp) (hops : ops = pre ++ op :: post) :
    op.safe S Gen.srcProg envs (Registry.empty.run S Gen.srcProg envs pre) = true := by
  subst hops
  rw [allValid_append, Bool.and_eq_true] at hv
  obtain ⟨hv1, hv2⟩ := hv
  simp only [Registry.allValid, Bool.and_eq_true] at hv2
  -- a call on a store is `ApiOp.safe` on the store held for its id, which is a reachable store (`api_live_shape`)
  have key : ∀ id (aop : ApiOp), (amGet (Registry.empty.run S Gen.srcProg envs pre).stores id).isSome = true →
      (match amGet (Registry.empty.run S Gen.srcProg envs pre).stores id with
       | some (lang, st) => aop.safe S Gen.srcProg (envs lang) st
       | none => false) = true := by
    intro id aop hsome
    obtain ⟨⟨lang, st⟩, hst⟩ := Option.isSome_iff_exists.1 hsome
    obtain ⟨_, post, _, _, rfl⟩ := api_live_shape S envs hE pre hv1 id lang st hst
    have hF := since_storeFacts S envs hE id lang post
    rw [hst]
    exact ApiOp.safe_of_inv S hS (envs lang) (hE.consts lang) (hE.unicode lang) (hE.tables lang) (hE.stem lang)
      hF.inv hF.textOK aop
  cases op with
  | addRecord id recId title rating => exact key id (.add recId title rating) hv2.1
  | runSearch id query => exact key id (.search query) (Bool.and_eq_true_iff.1 hv2.1).1
  | _ => rfl

/-- `C01_api_registry_safe` as one Boolean over the whole run. -/
theorem C01_api_registry_runSafe (S : Sorter) (hS : SorterOK S) (envs : Nat → Env) (hE : EnvsOK envs)
    (ops : List RegOp) (hv : Registry.allValid S Gen.srcProg envs Registry.empty ops = true) :
    Registry.runSafe S Gen.srcProg envs Registry.empty ops = true := by
  have key : ∀ (rest pre : List RegOp), ops = pre ++ rest →
      Registry.runSafe S Gen.srcProg envs (Registry.empty.run S Gen.srcProg envs pre) rest = true := by
    intro rest
    induction rest with
    | nil => intro _ _; rfl
    | cons op rest ih =>
      intro pre he
      simp only [Registry.runSafe, Bool.and_eq_true]
      refine ⟨C01_api_registry_safe S hS envs hE ops hv pre op rest he, ?_⟩
      have := ih (pre ++ [op]) (by simp [he])
      rwa [run_append] at this
  exact key ops [] rfl

/-- **C02 at the top-level API, precisely.** `id` was created with language `lang`, received the calls `post`, then
    `run_search(id, q)` was called, and since then (`later`) there was no further search on `id` (nor a destroy /
    re-create). Then every buffered result of `id`
    * carries the `recId` of an `add_record(id, recId, title, rating)` call made between the creation and the search,
    * and its title is that record's tokenised source text (`tokenize_record(lang, title).source`) decorated with
      the markers that were in force at the time of the search (`markersOf id post`: the last `highlight_with` on
      `id` before the search, default `[` `]`) around word-aligned spans (`SpansOK`: sorted, disjoint, non-empty,
      each starting at the first character of a distinct title word and ending inside it), NUL padding removed;
      later `highlight_with` calls do not re-decorate the buffer;
    * contains no NUL. -/
theorem C02_api_results (S : Sorter) (hS : SorterOK S) (envs : Nat → Env) (hE : EnvsOK envs)
    (pre post later : List RegOp) (id lang : Nat) (q : List Nat)
    (hv : Registry.allValid S Gen.srcProg envs Registry.empty
            (pre ++ RegOp.create id lang :: post ++ RegOp.runSearch id q :: later) = true)
    (hk : ∀ op ∈ post, op.keeps id = true) (hq : ∀ op ∈ later, op.quiet id = true) :
    ∀ res ∈ (amGet (Registry.empty.run S Gen.srcProg envs
                (pre ++ RegOp.create id lang :: post ++ RegOp.runSearch id q :: later)).results id).getD [],
      ∃ recId title rating spans, RegOp.addRecord id recId title rating ∈ post ∧ res.id = recId ∧
        SpansOK (tokenizeRecord Gen.srcProg (envs lang) title) spans ∧
        res.title = stripNul (decorate (tokenizeRecord Gen.srcProg (envs lang) title).source spans
                      (markersOf id post).1 (markersOf id post).2) ∧
        0 ∉ res.title := by
  rw [buffer_after_search S envs pre post later id lang q hv hk hq]
  intro res hres
  simp only [Option.getD_some] at hres
  have hF := since_storeFacts S envs hE id lang post
  obtain ⟨r, hr, spans, hid, hsp, ht⟩ :=
    C02_title_full_src hS _ _ hF.textOK (hE.query lang q).textOK res hres
  obtain ⟨title, hmem, htitle⟩ := add_of_store_record S (envs lang) id post r hr
  rw [(store_fields S (envs lang) id post).2.2, htitle] at ht
  exact ⟨r.id, title, r.rating, spans, hmem, hid, htitle ▸ hsp, ht, C20_titles_no_nul S _ _ _ _ res hres⟩

/-- The text between the markers is the text the caller supplied: the source of a tokenised title without its NUL
    padding is the raw title after the language's composition table (Unicode-composed form), NULs removed. -/
theorem C02_api_source (envs : Nat → Env) (hE : EnvsOK envs) (lang : Nat) (title : List Nat) :
    stripNul (tokenizeRecord Gen.srcProg (envs lang) title).source = stripNul (compose (envs lang).T title) := by
  rw [stripNul, stripNul, filter_bne_eq_filter_ne, filter_bne_eq_filter_ne]
  exact (hE.record lang title).source

/-- **C06 at the top-level API.** The number of buffered results of `id` never exceeds the limit that was in force
    at its last `run_search` (`limitOf id post`: the last `set_limit` on `id` between its creation and that search,
    default 10) — whatever was called since on this or any other id, later `set_limit` calls included. -/
theorem C06_api_limit (S : Sorter) (hS : SorterOK S) (envs : Nat → Env)
    (pre post later : List RegOp) (id lang : Nat) (q : List Nat)
    (hv : Registry.allValid S Gen.srcProg envs Registry.empty
            (pre ++ RegOp.create id lang :: post ++ RegOp.runSearch id q :: later) = true)
    (hk : ∀ op ∈ post, op.keeps id = true) (hq : ∀ op ∈ later, op.quiet id = true) :
    ((amGet (Registry.empty.run S Gen.srcProg envs
        (pre ++ RegOp.create id lang :: post ++ RegOp.runSearch id q :: later)).results id).getD []).length
      ≤ limitOf id post ∧
    (getResultIds (Registry.empty.run S Gen.srcProg envs
        (pre ++ RegOp.create id lang :: post ++ RegOp.runSearch id q :: later)) id).length ≤ limitOf id post := by
  have : ((amGet (Registry.empty.run S Gen.srcProg envs
        (pre ++ RegOp.create id lang :: post ++ RegOp.runSearch id q :: later)).results id).getD []).length
      ≤ limitOf id post := by
    rw [buffer_after_search S envs pre post later id lang q hv hk hq, Option.getD_some,
      ← (store_fields S (envs lang) id post).2.1]
    exact C06_length_le_limit_src S hS _ _
  exact ⟨this, by simpa [getResultIds] using this⟩

/-- … and before the first search on a newly created id the buffer is empty. -/
theorem C06_api_no_search_empty (S : Sorter) (envs : Nat → Env) (pre later : List RegOp) (id lang : Nat)
    (hv : Registry.allValid S Gen.srcProg envs Registry.empty (pre ++ RegOp.create id lang :: later) = true)
    (hq : ∀ op ∈ later, op.quiet id = true) :
    amGet (Registry.empty.run S Gen.srcProg envs (pre ++ RegOp.create id lang :: later)).results id = some [] := by
  rw [allValid_append, Bool.and_eq_true] at hv
  rw [run_append]
  exact (run_quiet_results S Gen.srcProg envs _ later id hq).trans
    (step_create S Gen.srcProg envs _ id lang (Bool.and_eq_true_iff.1 hv.2).1).2

/-- **C02 at the top-level API, any moment.** After any valid call list and for every id (live or not): every
    buffered result of `id` has a NUL-free title and carries the `recId` of some `add_record id recId …` call of the
    list; `get_result_ids` returns the ids of the buffered results, and splitting `get_result_titles` at NUL gives
    back exactly their titles, in order, followed by one empty string. -/
theorem C02_api_results_basic (S : Sorter) (hS : SorterOK S) (envs : Nat → Env) (hE : EnvsOK envs)
    (ops : List RegOp) (hv : Registry.allValid S Gen.srcProg envs Registry.empty ops = true) (id : Nat) :
    (∀ res ∈ (amGet (Registry.empty.run S Gen.srcProg envs ops).results id).getD [],
      0 ∉ res.title ∧ ∃ recId title rating, RegOp.addRecord id recId title rating ∈ ops ∧ res.id = recId) ∧
    getResultIds (Registry.empty.run S Gen.srcProg envs ops) id =
      ((amGet (Registry.empty.run S Gen.srcProg envs ops).results id).getD []).map (·.id) ∧
    splitNul (getResultTitles (Registry.empty.run S Gen.srcProg envs ops) id) =
      ((amGet (Registry.empty.run S Gen.srcProg envs ops).results id).getD []).map (·.title) ++ [[]] := by
  have main : ∀ res ∈ (amGet (Registry.empty.run S Gen.srcProg envs ops).results id).getD [],
      0 ∉ res.title ∧ ∃ recId title rating, RegOp.addRecord id recId title rating ∈ ops ∧ res.id = recId := by
    -- `id` is not live (no buffer), or live and never searched (empty buffer), or the buffer is that of its last
    -- search: `C02_api_results`
    cases hp : proj Gen.srcProg envs id ops with
    | none => rw [(C20_isolation_dead S Gen.srcProg envs ops hv id hp).2]; exact fun _ h => nomatch h
    | some x =>
      obtain ⟨pre, post, rfl, hk, -⟩ := (proj_eq_some_iff Gen.srcProg envs id ops x.1 x.2).mp hp
      rcases last_search_split id post hk with hq | ⟨mid, q, later, rfl, hkm, hq⟩
      · rw [C06_api_no_search_empty S envs pre post id x.1 hv hq]; exact fun _ h => nomatch h
      · rw [show pre ++ RegOp.create id x.1 :: (mid ++ RegOp.runSearch id q :: later) =
            pre ++ RegOp.create id x.1 :: mid ++ RegOp.runSearch id q :: later from
          (List.append_assoc pre (RegOp.create id x.1 :: mid) _).symm] at hv ⊢
        intro res hres
        obtain ⟨recId, title, rating, _, hm, hid, _, _, h0⟩ :=
          C02_api_results S hS envs hE pre mid later id x.1 q hv hkm hq res hres
        exact ⟨h0, recId, title, rating,
          List.mem_append_left _ (List.mem_append_right _ (List.mem_cons_of_mem _ hm)), hid⟩
  exact ⟨main, rfl, C20_bridge_framing _ id (fun r hr => (main r hr).1)⟩

/-- **C12 at the top-level API.** If the raw query `q` tokenises to no word (it contains no letter or digit: empty,
    blanks, punctuation), then after `run_search(id, q)` — and until the next search on `id` — the buffer of `id`
    holds exactly `min(limit, n)` results, where `limit` is the limit in force at the search and `n` the number of
    `add_record` calls on `id` since its creation or, if it was cleared (`clearStore id`), since the last clear
    (`addedOf id post`). -/
theorem C12_api_empty_query (S : Sorter) (hS : SorterOK S) (envs : Nat → Env) (hE : EnvsOK envs)
    (pre post later : List RegOp) (id lang : Nat) (q : List Nat)
    (hv : Registry.allValid S Gen.srcProg envs Registry.empty
            (pre ++ RegOp.create id lang :: post ++ RegOp.runSearch id q :: later) = true)
    (hk : ∀ op ∈ post, op.keeps id = true) (hq : ∀ op ∈ later, op.quiet id = true)
    (hwords : (tokenizeQuery Gen.srcProg (envs lang) q).words = []) :
    ((amGet (Registry.empty.run S Gen.srcProg envs
        (pre ++ RegOp.create id lang :: post ++ RegOp.runSearch id q :: later)).results id).getD []).length
      = min (limitOf id post) (addedOf id post).length := by
  rw [buffer_after_search S envs pre post later id lang q hv hk hq, Option.getD_some,
    ← (store_fields S (envs lang) id post).2.1, ← store_records_length S (envs lang) id post]
  exact C12_length S hS Gen.srcConsts (by decide) Gen.srcScoreOrder _ (StoreInv_reachable S _ _ _) _ hwords

/-- **C03 at the top-level API.** A record was added to `id` with raw title `title` and `id` was not cleared since
    (`hadd`; by `mem_addedOf` this says: `post = a ++ add_record(id, recId, title, rating) :: b` with no
    `clearStore id` in `b`; without any `clearStore id` in `post` it is `add_record … ∈ post`,
    `mem_addedOf_noClear`). Take a word `w` of its tokenised title and the first `k ≥ 1` characters `p` of that word
    (normalised, lower-cased form, as stored). If `p` ends in a letter or digit and is left unchanged by the
    language's compose / reduce tables, and `id` holds no more records than its limit, then after
    `run_search(id, p)` — the RAW string `p` — the buffer of `id` contains a result with that record's `recId`
    (until the next search on `id`). -/
theorem C03_api_prefix (S : Sorter) (hS : SorterOK S) (envs : Nat → Env) (hE : EnvsOK envs)
    (pre post later : List RegOp) (id lang : Nat)
    (recId : Nat) (title : List Nat) (rating : Nat) (hadd : (recId, title, rating) ∈ addedOf id post)
    (w : WordShape) (hw : w ∈ (tokenizeRecord Gen.srcProg (envs lang) title).words) (k : Nat) (hk1 : 1 ≤ k)
    (p : List Nat) (hp : p = (wchars (tokenizeRecord Gen.srcProg (envs lang) title) w).take k)
    (hlast : p.getLast?.map (envs lang).U.isAlnum = some true)
    (hcomp : compose (envs lang).T p = p) (hred : reduce (envs lang).T p = none)
    (hv : Registry.allValid S Gen.srcProg envs Registry.empty
            (pre ++ RegOp.create id lang :: post ++ RegOp.runSearch id p :: later) = true)
    (hk : ∀ op ∈ post, op.keeps id = true) (hq : ∀ op ∈ later, op.quiet id = true)
    (hlim : (addedOf id post).length ≤ limitOf id post) :
    ∃ res ∈ (amGet (Registry.empty.run S Gen.srcProg envs
                (pre ++ RegOp.create id lang :: post ++ RegOp.runSearch id p :: later)).results id).getD [],
      res.id = recId := by
  rw [buffer_after_search S envs pre post later id lang p hv hk hq, Option.getD_some]
  obtain ⟨ix, r, hr, hid, htitle, _⟩ := store_record_of_add S (envs lang) id post recId title rating hadd
  subst hp
  rw [← htitle] at hw hlast hcomp hred ⊢
  rw [← hid]
  exact prefix_typed_found_env S hS (envs lang) (hE.consts lang) (hE.unicode lang) (hE.tables lang) (hE.stem lang)
    (storeOpsOf Gen.srcProg (envs lang) id post) (storeOpsOf_tokenized _ _ _ _) (since_hlim S (envs lang) id post hlim)
    ix r hr w hw k hk1 hlast hcomp hred

/-- **C13 at the top-level API.** A record was added to `id` with raw title `title` (any text: several words,
    capitals, accents, punctuation) that has at least one word, `id` was not cleared since (`hadd`, see
    `mem_addedOf` / `mem_addedOf_noClear`), and `id` holds no more records than its limit. Then after
    `run_search(id, title)` — the very string that was added — the buffer of `id` contains a result with that
    record's `recId` (until the next search on `id`). -/
theorem C13_api_whole_title (S : Sorter) (hS : SorterOK S) (envs : Nat → Env) (hE : EnvsOK envs)
    (pre post later : List RegOp) (id lang : Nat)
    (recId : Nat) (title : List Nat) (rating : Nat) (hadd : (recId, title, rating) ∈ addedOf id post)
    (hne : (tokenizeRecord Gen.srcProg (envs lang) title).words ≠ [])
    (hv : Registry.allValid S Gen.srcProg envs Registry.empty
            (pre ++ RegOp.create id lang :: post ++ RegOp.runSearch id title :: later) = true)
    (hk : ∀ op ∈ post, op.keeps id = true) (hq : ∀ op ∈ later, op.quiet id = true)
    (hlim : (addedOf id post).length ≤ limitOf id post) :
    ∃ res ∈ (amGet (Registry.empty.run S Gen.srcProg envs
                (pre ++ RegOp.create id lang :: post ++ RegOp.runSearch id title :: later)).results id).getD [],
      res.id = recId := by
  rw [buffer_after_search S envs pre post later id lang title hv hk hq, Option.getD_some]
  obtain ⟨ix, r, hr, hid, htitle, _⟩ := store_record_of_add S (envs lang) id post recId title rating hadd
  rw [← htitle] at hne
  rw [← hid]
  exact whole_title_typed_env S hS (envs lang) (hE.consts lang) (hE.unicode lang) (hE.tables lang) (hE.stem lang)
    (storeOpsOf Gen.srcProg (envs lang) id post) (storeOpsOf_tokenized _ _ _ _) (since_hlim S (envs lang) id post hlim)
    ix r hr title htitle hne

/-- the newly constructed store of C10 for a store id with language environment `E`: `Store::new()`, then the limit,
    then the markers, then one `add_record` per triple `(recId, raw title, rating)` in order (titles tokenised for
    `E`); no search has been run on it, no record was ever removed from it -/
def freshFor (E : Env) (limit : Nat) (markers : List Nat × List Nat) (added : List (Nat × List Nat × Nat)) : Store :=
  Store.fresh Gen.srcConsts limit markers (added.map (fun x => (x.1, tokenizeRecord Gen.srcProg E x.2.1, x.2.2)))

/-- **C10 at the top-level API.** `id` was created with language `lang`, received the calls `post` — any mix of
    `add_record`, `clearStore`, `set_limit`, `highlight_with`, `run_search`, interleaved with calls on other ids —
    then `run_search(id, q)`. The buffer of `id` then holds (until the next search on `id`) exactly what a NEWLY
    CONSTRUCTED store answers to `q`: one that was given the limit and the markers in force, and then the records
    `id` currently holds (`addedOf id post`: those added since the last `clearStore id`), in the same order, and
    nothing else. Whatever caches and index entries the long-lived store accumulated make no difference. Holds for
    every sorting routine and every family of environments. -/
theorem C10_api_fresh (S : Sorter) (envs : Nat → Env) (pre post later : List RegOp) (id lang : Nat) (q : List Nat)
    (hv : Registry.allValid S Gen.srcProg envs Registry.empty
            (pre ++ RegOp.create id lang :: post ++ RegOp.runSearch id q :: later) = true)
    (hk : ∀ op ∈ post, op.keeps id = true) (hq : ∀ op ∈ later, op.quiet id = true) :
    amGet (Registry.empty.run S Gen.srcProg envs
        (pre ++ RegOp.create id lang :: post ++ RegOp.runSearch id q :: later)).results id =
      some ((freshFor (envs lang) (limitOf id post) (markersOf id post) (addedOf id post)).search S Gen.srcConsts
        Gen.srcScoreOrder (tokenizeQuery Gen.srcProg (envs lang) q)) := by
  rw [buffer_after_search S envs pre post later id lang q hv hk hq]
  obtain ⟨h1, h2, h3⟩ := store_fields S (envs lang) id post
  have hinv : StoreInv S Gen.srcConsts (runOne S Gen.srcProg (storeOpsOf Gen.srcProg (envs lang) id post)) :=
    StoreInv_reachable S _ _ _
  rw [search_eq_rebuild hinv, Store.rebuild, h1, h2, h3]
  rfl

/-- **C10 at the top-level API, after a clear.** `id` was created, received the calls `mid`, was cleared
    (`clearStore id` = `using_store(id, |s| s.clear())`), then received the calls `post` — `add_record`,
    `set_limit`, `highlight_with`, `run_search` on `id` and anything on other ids, but no further `clearStore id` /
    `destroy id` / `create id` — then `run_search(id, q)`. The buffer of `id` then holds exactly what a newly
    constructed store answers to `q` that was given the limit and markers in force (a clear resets neither: they
    are those of the last `set_limit` / `highlight_with` on `id` since its creation, before or after the clear) and
    then ONLY the records added AFTER the clear (`addsOf id post`: all `add_record` calls on `id` in `post`, in
    order). Nothing of what was added, indexed or cached before the clear has any influence. -/
theorem C10_api_clear (S : Sorter) (envs : Nat → Env) (pre mid post later : List RegOp) (id lang : Nat)
    (q : List Nat)
    (hv : Registry.allValid S Gen.srcProg envs Registry.empty
            (pre ++ RegOp.create id lang :: (mid ++ RegOp.clearStore id :: post) ++ RegOp.runSearch id q :: later)
              = true)
    (hkm : ∀ op ∈ mid, op.keeps id = true) (hkp : ∀ op ∈ post, op.keeps id = true)
    (hnc : ∀ op ∈ post, op ≠ RegOp.clearStore id) (hq : ∀ op ∈ later, op.quiet id = true) :
    amGet (Registry.empty.run S Gen.srcProg envs
        (pre ++ RegOp.create id lang :: (mid ++ RegOp.clearStore id :: post) ++ RegOp.runSearch id q :: later)).results
          id =
      some ((freshFor (envs lang) (limitOf id (mid ++ RegOp.clearStore id :: post))
          (markersOf id (mid ++ RegOp.clearStore id :: post)) (addsOf id post)).search S Gen.srcConsts
        Gen.srcScoreOrder (tokenizeQuery Gen.srcProg (envs lang) q)) := by
  have hk : ∀ op ∈ mid ++ RegOp.clearStore id :: post, op.keeps id = true :=
    List.forall_mem_append.2 ⟨hkm, List.forall_mem_cons.2 ⟨rfl, hkp⟩⟩
  rw [C10_api_fresh S envs pre _ later id lang q hv hk hq, addedOf_after_clear, addedOf_noClear id post hnc]

/-- the `clearStore` call itself changes neither the limit nor the markers in force -/
theorem limit_markers_clear (id : Nat) (mid post : List RegOp) :
    limitOf id (mid ++ RegOp.clearStore id :: post) = limitOf id (mid ++ post) ∧
    markersOf id (mid ++ RegOp.clearStore id :: post) = markersOf id (mid ++ post) := by
  simp [limitOf, markersOf, limitFrom, markersFrom, List.foldl_append]

/-- **C20 at the top-level API.** The result buffer of id `j` after `ops ++ ops'` is the buffer after `ops`
    whenever no call of `ops'` is a `run_search j`, `destroy j` or `create j`: calls on other ids — creations,
    destructions, additions, clears, searches — and `j`'s own `add_record` / `set_limit` / `highlight_with` /
    `clearStore` calls do not change what `get_result_ids(j)` / `get_result_titles(j)` return. Holds for every
    program, every family of environments, every sorting routine and every call list, valid or not (an invalid call
    changes nothing). -/
theorem C20_api_isolated (S : Sorter) (P : Prog) (envs : Nat → Env) (ops ops' : List RegOp) (j : Nat)
    (hq : ∀ op ∈ ops', op.quiet j = true) :
    amGet (Registry.empty.run S P envs (ops ++ ops')).results j = amGet (Registry.empty.run S P envs ops).results j ∧
    getResultIds (Registry.empty.run S P envs (ops ++ ops')) j = getResultIds (Registry.empty.run S P envs ops) j ∧
    getResultTitles (Registry.empty.run S P envs (ops ++ ops')) j =
      getResultTitles (Registry.empty.run S P envs ops) j := by
  have h : amGet (Registry.empty.run S P envs (ops ++ ops')).results j =
      amGet (Registry.empty.run S P envs ops).results j := by
    rw [run_append]; exact run_quiet_results S P envs _ ops' j hq
  exact ⟨h, by simp [getResultIds, h], by simp [getResultTitles, h]⟩

/-! ## non-vacuity: two ids with different languages (0: English tables, 1: German tables), interleaved calls, later
     limit / marker changes, a destroy and a re-create; toy Unicode / stem oracles and insertion sort -/

namespace APIExample
open C13Example C03Example

def exEnvs : Nat → Env := fun l => if l = 1 then C03bExample.deEnv else exEnv

theorem exEnvs_ok : EnvsOK exEnvs := by
  refine ⟨?_, ?_, ?_, ?_⟩ <;> intro l <;> unfold exEnvs <;> split
  · rfl
  · rfl
  · exact toyU_facts
  · exact toyU_facts
  · exact tablesOK_de
  · exact tablesOK_en
  · exact toyStemHyp_src (name := "de") (by simp [Gen.srcLangs])
  · exact toyStemHyp _ (by decide)

/-- calls after `create 1 0`: id 2 is created (German), "Abc def" (id 1) and "Straße" (id 2) are added, limit 5 and
    markers `<` `>` are set on id 1, "xy z" is added to id 1 -/
def exPost : List RegOp :=
  [.create 2 1, .addRecord 1 42 [65, 98, 99, 32, 100, 101, 102] 7, .addRecord 2 9 [83, 116, 114, 97, 223, 101] 0,
   .setLimit 1 5, .highlightWith 1 [60] [62], .addRecord 1 43 [120, 121, 32, 122] 1]

/-- calls after the search on id 1: a search on id 2, one more record, limit 0 and other markers on id 1, id 2
    destroyed and re-created -/
def exLater : List RegOp :=
  [.runSearch 2 [33], .addRecord 1 44 [100, 101] 3, .setLimit 1 0, .highlightWith 1 [40] [41], .destroy 2,
   .create 2 0]

/-- … with the search "de" on id 1 in between -/
def exOps : List RegOp := [] ++ RegOp.create 1 0 :: exPost ++ RegOp.runSearch 1 [100, 101] :: exLater

/-- … with the search "Abc def" on id 1 in between -/
def exOps13 : List RegOp :=
  [] ++ RegOp.create 1 0 :: exPost ++ RegOp.runSearch 1 [65, 98, 99, 32, 100, 101, 102] :: exLater

theorem exOps_valid : Registry.allValid exSorter Gen.srcProg exEnvs Registry.empty exOps = true := by decide +kernel
theorem exOps13_valid : Registry.allValid exSorter Gen.srcProg exEnvs Registry.empty exOps13 = true := by
  decide +kernel
theorem exPost_keeps : ∀ op ∈ exPost, op.keeps 1 = true := by decide
theorem exLater_quiet : ∀ op ∈ exLater, op.quiet 1 = true := by decide

/- what the run leaves in the buffer of id 1: "Abc <de>f" — found by the prefix "de", decorated with the markers in
   force at the search, not touched by the later limit 0 / markers `(` `)` -/
-- #eval (amGet (Registry.empty.run exSorter Gen.srcProg exEnvs exOps).results 1).getD []
--   [{ id := 42, title := [65, 98, 99, 32, 60, 100, 101, 62, 102] }]
-- #eval splitNul (getResultTitles (Registry.empty.run exSorter Gen.srcProg exEnvs exOps) 1)
--   [[65, 98, 99, 32, 60, 100, 101, 62, 102], []]

/-- `api_live_shape`: id 1 is live at the end of `exOps` -/
example : (amGet (Registry.empty.run exSorter Gen.srcProg exEnvs exOps).stores 1).isSome = true := by decide +kernel

/-- C01: the hypotheses are met -/
example : Registry.runSafe exSorter Gen.srcProg exEnvs Registry.empty exOps = true :=
  C01_api_registry_runSafe exSorter exSorter_ok exEnvs exEnvs_ok exOps exOps_valid

example : (RegOp.runSearch 1 [100, 101]).safe exSorter Gen.srcProg exEnvs
    (Registry.empty.run exSorter Gen.srcProg exEnvs ([] ++ RegOp.create 1 0 :: exPost)) = true :=
  C01_api_registry_safe exSorter exSorter_ok exEnvs exEnvs_ok exOps exOps_valid _ _ exLater rfl

/-- a call on a missing id is reported as unsafe -/
example : (RegOp.runSearch 7 []).safe exSorter Gen.srcProg exEnvs Registry.empty = false := by decide

/-- C02 (basic and precise), C06: the hypotheses are met -/
example := C02_api_results_basic exSorter exSorter_ok exEnvs exEnvs_ok exOps exOps_valid 1
example := C02_api_results exSorter exSorter_ok exEnvs exEnvs_ok [] exPost exLater 1 0 [100, 101] exOps_valid
  exPost_keeps exLater_quiet
example : markersOf 1 exPost = ([60], [62]) ∧ limitOf 1 exPost = 5 ∧ (addedOf 1 exPost).length = 2 := by decide
example := C06_api_limit exSorter exSorter_ok exEnvs [] exPost exLater 1 0 [100, 101] exOps_valid
  exPost_keeps exLater_quiet

/-- C12: on id 2 (German) two records are added and the limit is set to 1; the query "!" has no word; the buffer
    holds `min 1 2 = 1` result, also after a further `add_record` on id 2 and a search on id 1 -/
def exPost12 : List RegOp :=
  [.addRecord 1 42 [65, 98, 99] 7, .addRecord 2 9 [83, 116, 114, 97, 223, 101] 0, .addRecord 2 10 [97, 98, 99] 5,
   .setLimit 2 1]
def exLater12 : List RegOp := [.addRecord 2 11 [120] 9, .runSearch 1 [97]]

example : ((amGet (Registry.empty.run exSorter Gen.srcProg exEnvs
    ([RegOp.create 1 0] ++ RegOp.create 2 1 :: exPost12 ++ RegOp.runSearch 2 [33] :: exLater12)).results 2).getD
      []).length = min (limitOf 2 exPost12) (addedOf 2 exPost12).length :=
  C12_api_empty_query exSorter exSorter_ok exEnvs exEnvs_ok [RegOp.create 1 0] exPost12 exLater12 2 1 [33]
    (by decide +kernel) (by decide) (by decide) (by decide +kernel)

example : min (limitOf 2 exPost12) (addedOf 2 exPost12).length = 1 := by decide

/-- C03: typing "de", the first two characters of the second word of "Abc def", finds record 42 on id 1 -/
example : ∃ res ∈ (amGet (Registry.empty.run exSorter Gen.srcProg exEnvs exOps).results 1).getD [], res.id = 42 :=
  C03_api_prefix exSorter exSorter_ok exEnvs exEnvs_ok [] exPost exLater 1 0 42 [65, 98, 99, 32, 100, 101, 102] 7
    (by decide) C03bExample.exW
    (by show C03bExample.exW ∈ (tokenizeRecord Gen.srcProg exEnv _).words; rw [exTitle_tok]; decide) 2 (by decide)
    [100, 101] (by show _ = (wchars (tokenizeRecord Gen.srcProg exEnv _) _).take 2; rw [exTitle_tok]; decide)
    (by decide) (by decide +kernel) (by decide +kernel) exOps_valid exPost_keeps exLater_quiet (by decide)

/-- C13: typing "Abc def" as it was added finds record 42 on id 1 -/
example : ∃ res ∈ (amGet (Registry.empty.run exSorter Gen.srcProg exEnvs exOps13).results 1).getD [], res.id = 42 :=
  C13_api_whole_title exSorter exSorter_ok exEnvs exEnvs_ok [] exPost exLater 1 0 42 [65, 98, 99, 32, 100, 101, 102]
    7 (by decide) (by decide +kernel) exOps13_valid exPost_keeps exLater_quiet (by decide)

/-- C10 / C20 with a clear: id 1 gets "Abc def" and limit 5, a search, is cleared, gets markers `<` `>` and "xy z"
    and "de"; the search "de" then finds record 44 only, as a new store with limit 5, markers `<` `>` and those two
    records would; afterwards id 1 is cleared once more (buffer kept) -/
def exMid : List RegOp :=
  [.create 2 1, .addRecord 1 42 [65, 98, 99, 32, 100, 101, 102] 7, .setLimit 1 5, .runSearch 1 [100, 101]]
def exPostC : List RegOp :=
  [.highlightWith 1 [60] [62], .addRecord 2 9 [83, 116, 114, 97, 223, 101] 0, .addRecord 1 43 [120, 121, 32, 122] 1,
   .addRecord 1 44 [100, 101] 3]
def exLaterC : List RegOp := [.clearStore 1, .addRecord 1 45 [100, 101] 3, .clearStore 2]
def exOpsC : List RegOp :=
  [] ++ RegOp.create 1 0 :: (exMid ++ RegOp.clearStore 1 :: exPostC) ++ RegOp.runSearch 1 [100, 101] :: exLaterC

theorem exOpsC_valid : Registry.allValid exSorter Gen.srcProg exEnvs Registry.empty exOpsC = true := by decide +kernel

example := C10_api_clear exSorter exEnvs [] exMid exPostC exLaterC 1 0 [100, 101] exOpsC_valid (by decide) (by decide)
  (by decide) (by decide)
example : addsOf 1 exPostC = [(43, [120, 121, 32, 122], 1), (44, [100, 101], 3)] ∧
    addedOf 1 (exMid ++ RegOp.clearStore 1 :: exPostC) = addsOf 1 exPostC ∧
    limitOf 1 (exMid ++ RegOp.clearStore 1 :: exPostC) = 5 ∧
    markersOf 1 (exMid ++ RegOp.clearStore 1 :: exPostC) = ([60], [62]) := by decide
-- #eval (amGet (Registry.empty.run exSorter Gen.srcProg exEnvs exOpsC).results 1).getD []
--   [{ id := 44, title := [60, 100, 101, 62] }]      (record 42 "Abc def", added before the clear, is not found)
-- #eval (amGet (Registry.empty.run exSorter Gen.srcProg exEnvs exOpsC).stores 1).map (·.2.records.map (·.id))
--   some [45]                                         (the later clear emptied the store, the buffer above is kept)
/-- the C03 hypothesis `hadd` distinguishes a record added after the clear from one added before it -/
example : (44, [100, 101], 3) ∈ addedOf 1 (exMid ++ RegOp.clearStore 1 :: exPostC) ∧
    (42, [65, 98, 99, 32, 100, 101, 102], 7) ∉ addedOf 1 (exMid ++ RegOp.clearStore 1 :: exPostC) := by decide

/-- C20: the calls of `exLater` do not change the buffer of id 1 -/
example := C20_api_isolated exSorter Gen.srcProg exEnvs ([] ++ RegOp.create 1 0 :: exPost ++ [RegOp.runSearch 1 [100, 101]])
  exLater 1 exLater_quiet

end APIExample

end Lucid
