/-
  C09 — shape of the highlighting: the markers alternate and never nest; every highlighted span is non-empty,
  starts at the first character of a title word and ends inside that word; every word is highlighted at most
  once; a hit for a query with at least one word has a span, a hit for a word-less query has none.
  Statements with short proofs; the lemmas live in `Lemmas/Highlight.lean` and `Lemmas/TextMatchShape.lean`.

  Hypotheses (stated in `Lemmas/MatchFacts.lean`): `TextOK` of the record titles and of the query (from the
  tokenizer, C15) and `WordMatchOK` (`wordMatchOK`, `Lemmas/PairOK.lean`).
  "The query contains a letter or digit" is `q.words ≠ []` (C15: the words of a tokenised text are its maximal
  runs of non-separators, stripped; C12c: a text has a word iff it has a letter or digit).
-/
import LucidModel.Gen.Consts
import LucidProofs.Lemmas.TextMatchShape
import LucidProofs.Lemmas.SearchGlue

namespace Lucid

/-- the spans `(start, length)` of `h.title.source` that `highlight` puts the markers around -/
def hitSpans (h : Hit) : List (Nat × Nat) := hlSpans h.rmatches h.title.words 0

/-- Well-formed highlighting spans of a text: sorted and disjoint; each starts at the first character of a word of
    its own (the word indices increase strictly), is non-empty and ends inside that word. -/
def SpansOK (t : Text) (spans : List (Nat × Nat)) : Prop :=
  spans.Pairwise (fun a b => a.1 + a.2 ≤ b.1) ∧
  ∃ ixs : List Nat, ixs.length = spans.length ∧ ixs.Pairwise (· < ·) ∧
    ∀ p ∈ ixs.zip spans, ∃ w, t.words[p.1]? = some w ∧ p.2.1 = w.lo ∧ 1 ≤ p.2.2 ∧ p.2.1 + p.2.2 ≤ w.hi

theorem RMatchOK.spanOf {t : Text} {m : WMatch} (hm : RMatchOK t m) : spanOf t.words m = (m.lo, m.subHi) := by
  obtain ⟨w, hw, hlo, _⟩ := hm.word
  simp [Lucid.spanOf, List.getD, hw, hm.sub0, hlo]

theorem hlSpans_of_rmatches {t : Text} {rm : List WMatch}
    (hs : rm.Pairwise (fun a b => a.offset < b.offset)) (hm : ∀ m ∈ rm, RMatchOK t m) :
    hlSpans rm t.words 0 = rm.map (fun m => (m.lo, m.subHi)) := by
  rw [hlSpans_eq_map hs (fun m h => (hm m h).off_lt)]
  exact List.map_congr_left (fun m h => (hm m h).spanOf)

theorem spansOK_of_rmatches {t : Text} {rm : List WMatch} (ht : TextOK t)
    (hs : rm.Pairwise (fun a b => a.offset < b.offset)) (hm : ∀ m ∈ rm, RMatchOK t m) :
    SpansOK t (hlSpans rm t.words 0) := by
  refine ⟨(hlSafe_spans (hlSafe_of_rmatches ht hm)).1.pairwise.1, rm.map (·.offset), ?_, List.pairwise_map.mpr hs, ?_⟩
  · rw [hlSpans_of_rmatches hs hm]; simp
  · rw [hlSpans_of_rmatches hs hm, List.zip_map']
    intro p hp
    obtain ⟨m, hmem, rfl⟩ := List.mem_map.mp hp
    obtain ⟨w, hw, hlo, _⟩ := (hm m hmem).word
    exact ⟨w, hw, hlo, (hm m hmem).pos, hlo ▸ ((hm m hmem).fits ht w hw).2⟩

/-- hypotheses on a store and a query under which the hits are well-formed -/
structure HitsWF (K : Consts) (st : Store) (q : Text) : Prop where
  titles : ∀ r ∈ st.records, TextOK r.title
  query  : TextOK q
  wm     : ∀ r ∈ st.records, WordMatchOK K r.title q

theorem hit_rmatches_ok {K : Consts} {order : List ScoreType} {st : Store} {q : Text} (H : HitsWF K st q)
    {ixs : List Nat} {h : Hit} (hh : h ∈ st.hitsOf K order q ixs) :
    TextOK h.title ∧ h.rmatches.Pairwise (fun a b => a.offset < b.offset) ∧ ∀ m ∈ h.rmatches, RMatchOK h.title m := by
  obtain ⟨ix, r, _, hr, rfl, _⟩ := hit_of_mem_hitsOf hh
  have hmem : r ∈ st.records := List.mem_of_getElem? hr
  have := textMatch_rmatches_ok (H.titles r hmem) H.query (H.wm r hmem)
  exact ⟨H.titles r hmem, this.1, this.2⟩

/-- **C09 (spans).** In every hit the highlighted spans of the title are sorted and pairwise disjoint, each is
    non-empty, starts at the first character of a title word and ends inside that same word, and distinct
    spans belong to distinct words (each word is highlighted at most once). -/
theorem C09_spans_ok {K : Consts} {order : List ScoreType} {st : Store} {q : Text} (H : HitsWF K st q)
    (ixs : List Nat) : ∀ h ∈ st.hitsOf K order q ixs, SpansOK h.title (hitSpans h) := by
  intro h hh
  obtain ⟨ht, hs, hm⟩ := hit_rmatches_ok H hh
  exact spansOK_of_rmatches ht hs hm

/-- the spans are those of the record matches, in their order: `(start of the word, matched length)` -/
theorem C09_spans_are_rmatches {K : Consts} {order : List ScoreType} {st : Store} {q : Text} (H : HitsWF K st q)
    (ixs : List Nat) : ∀ h ∈ st.hitsOf K order q ixs, hitSpans h = h.rmatches.map (fun m => (m.lo, m.subHi)) := by
  intro h hh
  obtain ⟨_, hs, hm⟩ := hit_rmatches_ok H hh
  exact hlSpans_of_rmatches hs hm

theorem highlight_eq_decorate {K : Consts} {order : List ScoreType} {st : Store} {q : Text} (H : HitsWF K st q)
    {ixs : List Nat} {h : Hit} (hh : h ∈ st.hitsOf K order q ixs) :
    (SpansFrom 0 (nulSpans h.title.source (hitSpans h)) ∧
      SpansIn (stripNul h.title.source).length (nulSpans h.title.source (hitSpans h))) ∧
    ∀ dl dr, highlight h dl dr =
      decorate (stripNul h.title.source) (nulSpans h.title.source (hitSpans h)) (stripNul dl) (stripNul dr) := by
  obtain ⟨ht, hs, hm⟩ := hit_rmatches_ok H hh
  have hsafe := hlSafe_of_rmatches ht hm
  obtain ⟨hfrom, hin⟩ := hlSafe_spans hsafe
  refine ⟨⟨nulPos_zero _ ▸ nulSpans_from h.title.source hfrom, nulSpans_in _ hin⟩, fun dl dr => ?_⟩
  rw [highlight_eq_stripNul, hlWalk_eq_decorate dl dr hsafe]
  exact stripNul_decorate _ dl dr hfrom

/-- **C09 (markers alternate, never nest).** The rendered title of every hit is
    `gap₀ ++ dl ++ span₁ ++ dr ++ gap₁ ++ dl ++ span₂ ++ dr ++ … ++ gapₙ` (`decorate`) with NUL removed: an
    opening marker is always followed by the characters of one span and one closing marker before the next
    opening marker. The same holds in the NUL-free text: the title is the decoration of the NUL-free source by
    the NUL-free markers around sorted disjoint spans. -/
theorem C09_markup_balanced {K : Consts} {order : List ScoreType} {st : Store} {q : Text} (H : HitsWF K st q)
    (ixs : List Nat) : ∀ h ∈ st.hitsOf K order q ixs,
      (st.render h).title = stripNul (decorate h.title.source (hitSpans h) st.dividers.1 st.dividers.2) ∧
      (st.render h).title = decorate (stripNul h.title.source) (nulSpans h.title.source (hitSpans h))
                              (stripNul st.dividers.1) (stripNul st.dividers.2) ∧
      SpansFrom 0 (hitSpans h) ∧ SpansFrom 0 (nulSpans h.title.source (hitSpans h)) := by
  intro h hh
  obtain ⟨ht, _, hm⟩ := hit_rmatches_ok H hh
  have hsafe := hlSafe_of_rmatches ht hm
  have hg := highlight_eq_decorate H hh
  refine ⟨?_, hg.2 _ _, (hlSafe_spans hsafe).1, hg.1.1⟩
  simp only [Store.render, highlight_eq_stripNul, hlWalk_eq_decorate _ _ hsafe, hitSpans]

/-- **C09 (wordy query ⇒ a span).** A hit for a query that has at least one word (contains a letter or digit)
    has at least one highlighted span. -/
theorem C09_some_span_for_wordy_query {K : Consts} {order : List ScoreType} {st : Store} {q : Text}
    (H : HitsWF K st q) (hq : q.words ≠ []) (ixs : List Nat) :
    ∀ h ∈ st.hitsOf K order q ixs, h.rmatches ≠ [] ∧ hitSpans h ≠ [] := by
  intro h hh
  have hne : h.rmatches ≠ [] := by
    obtain ⟨_, _, _, _, _, hpass⟩ := hit_of_mem_hitsOf hh
    intro he
    rw [hitMatches_nil h (fun e => hq (List.length_eq_zero_iff.mp e)) he] at hpass
    cases hpass
  refine ⟨hne, ?_⟩
  rw [C09_spans_are_rmatches H ixs h hh]
  simpa using hne

/-- **C09 (empty or separator-only query ⇒ no span).** A hit for a query without words has no record matches
    and no highlighted span. No hypotheses. -/
theorem C09_no_span_for_empty_query {K : Consts} {order : List ScoreType} {st : Store} {q : Text}
    (hq : q.words = []) (ixs : List Nat) :
    ∀ h ∈ st.hitsOf K order q ixs, h.rmatches = [] ∧ hitSpans h = [] := by
  intro h hh
  obtain ⟨_, r, _, _, rfl, _⟩ := hit_of_mem_hitsOf hh
  have hr : (scoreHit K order q r).rmatches = [] := by
    show (textMatch K r.title q).1 = []
    rw [textMatch_no_words K r.title q hq]
  exact ⟨hr, by simp only [hitSpans, hr, hlSpans_nil]⟩

/-- … and its rendered title is the NUL-free source of the record's title without any marker (for well-formed
    titles; no assumption on the markers or on `word_match`). -/
theorem C09_no_marker_for_empty_query {K : Consts} {order : List ScoreType} {st : Store} {q : Text}
    (htitles : ∀ r ∈ st.records, TextOK r.title) (hq : q.words = []) (ixs : List Nat) :
    ∀ h ∈ st.hitsOf K order q ixs, (st.render h).title = stripNul h.title.source := by
  intro h hh
  obtain ⟨hr, hsp⟩ := C09_no_span_for_empty_query hq ixs h hh
  obtain ⟨_, r, _, hrec, rfl, _⟩ := hit_of_mem_hitsOf hh
  have ht : TextOK (scoreHit K order q r).title := htitles r (List.mem_of_getElem? hrec)
  have hsafe : hlSafe (scoreHit K order q r).title.source (scoreHit K order q r).rmatches
      (scoreHit K order q r).title.words 0 0 = true :=
    hlSafe_of_textOK ht (fun m hmem => by rw [hr] at hmem; cases hmem)
  simp only [Store.render, highlight_eq_stripNul, hlWalk_eq_decorate _ _ hsafe]
  unfold hitSpans at hsp
  rw [hsp]
  simp [decorate, decorateFrom]

/-- **C09 (non-empty in the returned title).** If moreover the first character of every title word is not NUL in
    `source` (tokenizer cluster: NUL padding only follows an expanded character, and a word starts with a letter or
    digit), every highlighted span of the *returned* title — between an opening and the next closing marker —
    is non-empty. -/
theorem C09_rendered_spans_nonempty {K : Consts} {order : List ScoreType} {st : Store} {q : Text} (H : HitsWF K st q)
    (hnn : ∀ r ∈ st.records, ∀ w ∈ r.title.words, r.title.source[w.lo]? ≠ some 0) (ixs : List Nat) :
    ∀ h ∈ st.hitsOf K order q ixs, ∀ p ∈ nulSpans h.title.source (hitSpans h), 1 ≤ p.2 := by
  intro h hh p hp
  obtain ⟨ht, hs, hm⟩ := hit_rmatches_ok H hh
  have hsp := hlSpans_of_rmatches hs hm
  obtain ⟨_, r, _, hrec, rfl, _⟩ := hit_of_mem_hitsOf hh
  have hr : r ∈ st.records := List.mem_of_getElem? hrec
  simp only [nulSpans, hitSpans, hsp, List.map_map, List.mem_map] at hp
  obtain ⟨m, hmem, rfl⟩ := hp
  obtain ⟨w, hw, hlo, hhi⟩ := (hm m hmem).word
  have hwm : w ∈ r.title.words := List.mem_of_getElem? hw
  have hb : w.lo < w.hi ∧ w.hi ≤ r.title.chars.length := ht.bounds w hwm
  have hl : r.title.source.length = r.title.chars.length := ht.lens.1
  simp only [Function.comp]
  refine nulSpan_pos _ (hm m hmem).pos ?_ ?_
  · show m.lo < r.title.source.length
    rw [hlo, hl]; omega
  · rw [hlo]; exact hnn r hr w hwm

/-! ### non-vacuity: a concrete instance of the hypotheses

`exT` is the tokenised record title "metal detector", `exQ` the tokenised query "det". Evaluating the model with
the constants generated from the source, `#eval (scoreHit Gen.srcConsts Gen.srcScoreOrder exQ ⟨0, 10, exT, 0⟩).rmatches`
gives exactly `[exM]` and the rendered title is "metal [det]ector". `WordMatchOK` for the source constants is
`wordMatchOK_src` (`Lemmas/PairOK.lean`); here it is instantiated for constants under which the Jaccard gate rejects
everything. -/
namespace C09Example

def exT : Text :=
  { words := [{ offset := 0, lo := 0, hi := 5, stem := 5, pos := none, fin := true },
              { offset := 1, lo := 6, hi := 14, stem := 8, pos := none, fin := true }],
    source := [109,101,116,97,108,32,100,101,116,101,99,116,111,114],
    chars := [109,101,116,97,108,32,100,101,116,101,99,116,111,114],
    classes := List.replicate 14 CharClass.any }

def exQ : Text :=
  { words := [{ offset := 0, lo := 0, hi := 3, stem := 3, pos := none, fin := false }],
    source := [100,101,116], chars := [100,101,116], classes := List.replicate 3 CharClass.any }

theorem exT_ok : TextOK exT := by decide

theorem exQ_ok : TextOK exQ := by decide

def exM : WMatch := { offset := 1, lo := 6, hi := 14, subLo := 0, subHi := 3, typos := 0, func := false, fin := false }

example : RMatchOK exT exM := ⟨by decide, ⟨_, rfl, rfl, rfl⟩, rfl, by decide, by decide⟩
example : hlSpans [exM] exT.words 0 = [(6, 3)] := by decide
/-- "metal [det]ector" -/
example : hlWalk exT.source [exM] [91] [93] exT.words 0 0 =
    [109,101,116,97,108,32, 91, 100,101,116, 93, 101,99,116,111,114] := by decide
example : SpansOK exT [(6, 3)] :=
  spansOK_of_rmatches (rm := [exM]) exT_ok (by simp)
    (by intro m hm; simp at hm; subst hm; exact ⟨by decide, ⟨_, rfl, rfl, rfl⟩, rfl, by decide, by decide⟩)

/-- constants with a Jaccard threshold of 0: `word_match` rejects every pair, `WordMatchOK` holds trivially -/
def K0 : Consts := { Gen.srcConsts with jacNum := 0 }

theorem wm0 (rt qt : Text) : WordMatchOK K0 rt qt := by
  intro r q p _ _ _ _ h
  have hj : jaccardCheck K0 rt r qt q = false := by simp [jaccardCheck, K0]
  rw [wordMatch, wordMatchM_eq, if_neg fun c => Bool.noConfusion (hj.symm.trans c.2.2.2)] at h
  cases h

def exStore : Store := (Store.new K0).add 10 exT 0

/-- the hypotheses of the C09 theorems are satisfiable -/
example : HitsWF K0 exStore exQ where
  titles := by intro r hr; simp [exStore, Store.add, Store.new] at hr; subst hr; exact exT_ok
  query := exQ_ok
  wm := fun r _ => wm0 r.title exQ

end C09Example

end Lucid
