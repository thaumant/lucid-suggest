/-
  C11 (remaining variants) — "Replacing letters of the query by their other-case form, writing its accented
  letters in decomposed instead of precomposed form, stripping the accents the store's language folds
  (ö→o, ß→ss, é→e, ё→е, ...), or prefixing separators, never changes the hit list or the highlighted titles.
  Storing a title in decomposed form gives the same hits and the same returned titles as storing it
  precomposed."   (The separator-prefix variant and the search congruence are in C11.lean.)

  HOW THE VARIANTS ARE WRITTEN.  `s` is a string without free-standing combining marks of the language's compose
  table (`MarkFree`), and
    * `decompAt compose s mask` writes the letters at the positions selected by `mask` as base letter +
      combining mark (the key of the compose-table entry producing the letter);
    * `foldAt reduce s mask` replaces the letters at the selected positions by what the reduce table maps them
      to (`ö→o`, `ß→ss`, …);
    * a re-casing of `s` is any `s'` with `s'.map lower1 = s.map lower1` (same length, position by position the
      same lower-case form: every subset of positions, every one-to-one or many-to-one case pair).
  `mask` is arbitrary, so every subset of positions is covered.

  WHAT THE TABLES MUST SATISFY (decidable, kernel-checked for all seven generated languages, see
  `variantTablesOK_of_src`; none of the generated tables violates any of them):
    * `ComposeClosed` : compose keys are pairs `[base, mark]`, no base is a mark, no key is shadowed;
    * `FoldClosed`    : reduce keys are single characters and no character of a replacement is a key;
    * `FoldMarkFree`  : no character of a reduce replacement is a combining mark of the compose table.

  WHAT IS ASSUMED OF THE CHARACTER ORACLE, FOR RE-CASING ONLY (hypotheses of the general theorems here; for the
  tables of Rust's `std` both are kernel-checked theorems, `caseClosedOn_src` and `sepLowerOn_src` in
  `Lemmas/UnicodeSrc.lean`, which C11c.lean puts in):
    * `CaseClosedOn` : folding a character and folding its lower-case form agree up to case;
    * `SepLowerOn`   : lower-casing does not change whether a character is a separator (one half of it is
                       `UnicodeFacts.lower_sep`).
  These hypotheses are stated on the characters that actually occur, not on all scalars.

  Finding D5. Before the fix `TextOwn::lower` lower-cased the array only if it contained an upper-case character,
  so a query containing a title-case letter (`ǅ ǈ ǋ ǲ`, `ᾈ`…: not `is_uppercase`, yet changed by `to_lowercase`)
  was tokenised differently depending on whether some *other* letter was upper-case, and re-casing could be proved
  only under a hypothesis that Unicode violates ("a character that is not upper-case is its own lower-case form").
  The Rust code now lower-cases every character unconditionally and the model follows; `C11_recase_titlecase`
  below (`ǅa` / `ǅA`) is the pair on which the code before the fix answered differently.

  Decomposition and folding need no assumption on the oracle at all: they are undone by `normalize`, the first
  tokenizer step, before any character predicate is consulted.
-/
import LucidProofs.C11
import LucidProofs.C15

namespace Lucid

/-! ### decomposed titles -/

/-- Two titles with the same composed form are tokenised identically, `source` (the text that is highlighted
    and returned) included: every language table, oracle and stemmer, no hypothesis. -/
theorem C11_title_same_composition (E : Env) (s s' : List Nat) (h : compose E.T s' = compose E.T s) :
    tokenizeRecord Gen.srcProg E s' = tokenizeRecord Gen.srcProg E s := by
  rw [tokenizeRecord_eq, tokenizeRecord_eq, normChars_congr E h, normSource_congr E h]

/-- Storing a title with any subset of its accented letters written in decomposed form (base letter followed
    by the combining mark) produces exactly the same record text — words, characters, classes and the
    `source` that is returned — as storing it precomposed. Hypotheses: the compose table is `ComposeClosed`
    (kernel-checked for every generated language) and the title has no free-standing combining marks. -/
theorem C11_title_decomposed (E : Env) (hC : ComposeClosed E.T.compose = true) (s : List Nat)
    (hs : MarkFree E.T.compose s) (mask : List Bool) :
    tokenizeRecord Gen.srcProg E (decompAt E.T.compose s mask) = tokenizeRecord Gen.srcProg E s :=
  C11_title_same_composition E _ _ (compose_decompAt E hC s hs mask)

/-- the same for every language of the generated registry list -/
theorem C11_title_decomposed_src (E : Env) {name : String} (hT : (name, E.T) ∈ Gen.srcLangs) (s : List Nat)
    (hs : MarkFree E.T.compose s) (mask : List Bool) :
    tokenizeRecord Gen.srcProg E (decompAt E.T.compose s mask) = tokenizeRecord Gen.srcProg E s :=
  C11_title_decomposed E (variantTablesOK_of_src hT).1 s hs mask

/-- Hence the store after `add` is the same store, and every later search returns the same ids and the same
    highlighted titles (any sorter, constants, score order, query). -/
theorem C11_title_decomposed_store (E : Env) (hC : ComposeClosed E.T.compose = true) (s : List Nat)
    (hs : MarkFree E.T.compose s) (mask : List Bool) (st : Store) (id rating : Nat) :
    st.add id (tokenizeRecord Gen.srcProg E (decompAt E.T.compose s mask)) rating =
      st.add id (tokenizeRecord Gen.srcProg E s) rating ∧
    ∀ (S : Sorter) (K : Consts) (order : List ScoreType) (q : Text),
      (st.add id (tokenizeRecord Gen.srcProg E (decompAt E.T.compose s mask)) rating).searchM S K order q =
        (st.add id (tokenizeRecord Gen.srcProg E s) rating).searchM S K order q := by
  rw [C11_title_decomposed E hC s hs mask]
  exact ⟨rfl, fun _ _ _ _ => rfl⟩

/-- Library level: `add_record` with the decomposed title leaves the registry (all stores, all pending
    results) in exactly the state `add_record` with the precomposed title leaves it in. `lang` is the language
    the store `id` was created with; if there is no such store both calls are the same no-op. -/
theorem C11_title_decomposed_registry (S : Sorter) (envs : Nat → Env) (g : Registry) (id recId rating : Nat)
    (s : List Nat) (mask : List Bool) (m : List (List Nat × List Nat))
    (h : ∀ lang st, amGet g.stores id = some (lang, st) →
      (envs lang).T.compose = m ∧ ComposeClosed m = true ∧ MarkFree m s) :
    Registry.step S Gen.srcProg envs g (.addRecord id recId (decompAt m s mask) rating) =
      Registry.step S Gen.srcProg envs g (.addRecord id recId s rating) := by
  apply step_addRecord_congr
  intro lang st hg
  obtain ⟨hm, hC, hs⟩ := h lang st hg
  subst hm
  exact C11_title_decomposed (envs lang) hC s hs mask

/-- non-vacuity: German tables, `Über` stored as `U` + U+0308 + `ber` -/
example : ComposeClosed (toyEnv Gen.lang_de).T.compose = true ∧
    MarkFree (toyEnv Gen.lang_de).T.compose [220, 98, 101, 114] ∧
    decompAt (toyEnv Gen.lang_de).T.compose [220, 98, 101, 114] [true] = [85, 776, 98, 101, 114] :=
  ⟨composeClosed_de, by decide, by decide⟩

/-- … and the record text both spellings produce: `source` is the precomposed `Über` -/
example : tokenizeRecord Gen.srcProg (toyEnv Gen.lang_de) [85, 776, 98, 101, 114] =
    tokenizeRecord Gen.srcProg (toyEnv Gen.lang_de) [220, 98, 101, 114] ∧
    (tokenizeRecord Gen.srcProg (toyEnv Gen.lang_de) [85, 776, 98, 101, 114]).source = [220, 98, 101, 114] :=
  ⟨C11_title_decomposed (toyEnv Gen.lang_de) composeClosed_de [220, 98, 101, 114] (by decide) [true],
   by decide +kernel⟩

/-! ### decomposed query -/

/-- Two queries with the same composed form are tokenised identically. -/
theorem C11_query_same_composition (E : Env) (s s' : List Nat) (h : compose E.T s' = compose E.T s) :
    tokenizeQuery Gen.srcProg E s' = tokenizeQuery Gen.srcProg E s := by
  rw [tokenizeQuery_eq, tokenizeQuery_eq, normChars_congr E h, normSource_congr E h]

/-- Writing any subset of the accented letters of a query in decomposed form gives exactly the same tokenised
    query (so `source` too). Hypotheses: `ComposeClosed` compose table (kernel-checked for every generated
    language), query without free-standing combining marks. -/
theorem C11_decompose_variant (E : Env) (hC : ComposeClosed E.T.compose = true) (s : List Nat)
    (hs : MarkFree E.T.compose s) (mask : List Bool) :
    tokenizeQuery Gen.srcProg E (decompAt E.T.compose s mask) = tokenizeQuery Gen.srcProg E s :=
  C11_query_same_composition E _ _ (compose_decompAt E hC s hs mask)

theorem C11_decompose_variant_src (E : Env) {name : String} (hT : (name, E.T) ∈ Gen.srcLangs) (s : List Nat)
    (hs : MarkFree E.T.compose s) (mask : List Bool) :
    tokenizeQuery Gen.srcProg E (decompAt E.T.compose s mask) = tokenizeQuery Gen.srcProg E s :=
  C11_decompose_variant E (variantTablesOK_of_src hT).1 s hs mask

/-- Hence the same hit list, the same highlighted titles and the same store after the call — for every sorting
    oracle (the tokenised queries are equal, no naturality needed). -/
theorem C11_decompose_search (S : Sorter) (E : Env) (K : Consts) (order : List ScoreType) (st : Store)
    (hC : ComposeClosed E.T.compose = true) (s : List Nat) (hs : MarkFree E.T.compose s) (mask : List Bool) :
    st.searchM S K order (tokenizeQuery Gen.srcProg E (decompAt E.T.compose s mask)) =
      st.searchM S K order (tokenizeQuery Gen.srcProg E s) := by
  rw [C11_decompose_variant E hC s hs mask]

/-- library level: `search` with the decomposed query leaves the registry exactly as `search` with the
    precomposed one does -/
theorem C11_decompose_registry (S : Sorter) (envs : Nat → Env) (g : Registry) (id : Nat)
    (s : List Nat) (mask : List Bool) (m : List (List Nat × List Nat))
    (h : ∀ lang st, amGet g.stores id = some (lang, st) →
      (envs lang).T.compose = m ∧ ComposeClosed m = true ∧ MarkFree m s) :
    Registry.step S Gen.srcProg envs g (.runSearch id (decompAt m s mask)) =
      Registry.step S Gen.srcProg envs g (.runSearch id s) := by
  apply step_runSearch_congr
  intro lang st hg
  obtain ⟨hm, hC, hs⟩ := h lang st hg
  subst hm
  exact C11_decompose_search S (envs lang) _ _ st hC s hs mask

/-- non-vacuity: French tables, `été` with both `é` decomposed -/
example : ComposeClosed (toyEnv Gen.lang_fr).T.compose = true ∧
    MarkFree (toyEnv Gen.lang_fr).T.compose [233, 116, 233] ∧
    decompAt (toyEnv Gen.lang_fr).T.compose [233, 116, 233] [true, false, true] = [101, 769, 116, 101, 769] :=
  ⟨composeClosed_fr, by decide, by decide⟩

/-! ### folded query -/

/-- Replacing any subset of the letters of a query by what the language's reduce table folds them to
    (`ö→o`, `ß→ss`, `é→e`, `ё→е`, `æ→ae`, …) gives the same tokenised query up to `source` (same words, same
    characters, same classes). Hypotheses: the three table conditions (kernel-checked for every generated
    language), query without free-standing combining marks. No assumption on the character oracle. -/
theorem C11_fold_variant (E : Env) (hC : ComposeClosed E.T.compose = true) (hF : FoldClosed E.T.reduce = true)
    (hM : FoldMarkFree E.T = true) (s : List Nat) (hs : MarkFree E.T.compose s) (mask : List Bool) :
    (tokenizeQuery Gen.srcProg E (foldAt E.T.reduce s mask)).sameUpToSource (tokenizeQuery Gen.srcProg E s) :=
  tokenizeQuery_of_normChars E (normChars_foldAt E hC hF hM s hs mask)

theorem C11_fold_variant_src (E : Env) {name : String} (hT : (name, E.T) ∈ Gen.srcLangs) (s : List Nat)
    (hs : MarkFree E.T.compose s) (mask : List Bool) :
    (tokenizeQuery Gen.srcProg E (foldAt E.T.reduce s mask)).sameUpToSource (tokenizeQuery Gen.srcProg E s) :=
  C11_fold_variant E (variantTablesOK_of_src hT).1 (variantTablesOK_of_src hT).2.1 (variantTablesOK_of_src hT).2.2
    s hs mask

/-- Hence the same hit list, the same highlighted titles and the same store after the call (sorter treating
    hits as opaque values, `SorterNatural`, as in `C11_searchM_congr`). -/
theorem C11_fold_search {S : Sorter} (hS : SorterNatural S) (E : Env) (K : Consts) (order : List ScoreType)
    (st : Store) (hC : ComposeClosed E.T.compose = true) (hF : FoldClosed E.T.reduce = true)
    (hM : FoldMarkFree E.T = true) (s : List Nat) (hs : MarkFree E.T.compose s) (mask : List Bool) :
    st.searchM S K order (tokenizeQuery Gen.srcProg E (foldAt E.T.reduce s mask)) =
      st.searchM S K order (tokenizeQuery Gen.srcProg E s) :=
  C11_searchM_congr hS K order st (QEquiv.of_sameUpToSource (C11_fold_variant E hC hF hM s hs mask))

theorem C11_fold_search_src {S : Sorter} (hS : SorterNatural S) (E : Env) {name : String}
    (hT : (name, E.T) ∈ Gen.srcLangs) (st : Store) (s : List Nat) (hs : MarkFree E.T.compose s) (mask : List Bool) :
    st.search S Gen.srcConsts Gen.srcScoreOrder (tokenizeQuery Gen.srcProg E (foldAt E.T.reduce s mask)) =
      st.search S Gen.srcConsts Gen.srcScoreOrder (tokenizeQuery Gen.srcProg E s) := by
  simp only [Store.search, C11_fold_search hS E _ _ st (variantTablesOK_of_src hT).1
    (variantTablesOK_of_src hT).2.1 (variantTablesOK_of_src hT).2.2 s hs mask]

/-- At the top-level API: a `run_search` on `id` with the folded query leaves the registry (result buffer included)
    exactly as the search with the original query does. -/
theorem C11_fold_registry {S : Sorter} (hS : SorterNatural S) (envs : Nat → Env) (g : Registry) (id : Nat)
    (s : List Nat) (mask : List Bool) (T : LangTables)
    (h : ∀ lang st, amGet g.stores id = some (lang, st) →
      (envs lang).T = T ∧ ComposeClosed T.compose = true ∧ FoldClosed T.reduce = true ∧ FoldMarkFree T = true ∧
        MarkFree T.compose s) :
    Registry.step S Gen.srcProg envs g (.runSearch id (foldAt T.reduce s mask)) =
      Registry.step S Gen.srcProg envs g (.runSearch id s) := by
  apply step_runSearch_congr
  intro lang st hg
  obtain ⟨hm, hC, hF, hM, hs⟩ := h lang st hg
  subst hm
  exact C11_fold_search hS (envs lang) _ _ st hC hF hM s hs mask

/-- non-vacuity: German tables, `Straße` typed `Strasse`; the two tokenised queries differ in `source` only
    (`ß` + NUL padding against `ss`) -/
example : MarkFree (toyEnv Gen.lang_de).T.compose [83, 116, 114, 97, 223, 101] ∧
    foldAt (toyEnv Gen.lang_de).T.reduce [83, 116, 114, 97, 223, 101] [false, false, false, false, true] =
      [83, 116, 114, 97, 115, 115, 101] ∧
    (tokenizeQuery Gen.srcProg (toyEnv Gen.lang_de) [83, 116, 114, 97, 223, 101]).source = [83, 116, 114, 97, 223, 0, 101] ∧
    (tokenizeQuery Gen.srcProg (toyEnv Gen.lang_de) [83, 116, 114, 97, 115, 115, 101]).source =
      [83, 116, 114, 97, 115, 115, 101] :=
  ⟨by decide +kernel, by decide +kernel, by decide +kernel, by decide +kernel⟩

/-! ### re-cased query -/

/-- A query `s'` that is a re-casing of `s` (`s'.map lower1 = s.map lower1`: position by position the same
    lower-case form, any subset of positions changed) gives the same tokenised query up to `source`.
    Hypotheses: `UnicodeFacts` (checked against `std` by the harness), `ComposeClosed`/`FoldClosed` tables
    (kernel-checked for every generated language), both spellings free of combining marks, and two
    oracle-relative facts restricted to the characters that occur — `CaseClosedOn` on the characters of the two
    queries (the reduce table treats a letter and its lower-case form alike, up to case) and `SepLowerOn` on the
    characters of the two normalised strings (lower-casing keeps separator-ness). Nothing is assumed about which
    characters are upper-case: title-case letters (`ǅ`…) are covered. -/
theorem C11_recase_variant (E : Env) (hU : UnicodeFacts E.U E.K) (hC : ComposeClosed E.T.compose = true)
    (hF : FoldClosed E.T.reduce = true) (s s' : List Nat)
    (hs : MarkFree E.T.compose s) (hs' : MarkFree E.T.compose s')
    (hcase : s'.map E.U.lower1 = s.map E.U.lower1)
    (hcc : CaseClosedOn E (s ++ s'))
    (hsl : SepLowerOn E (normChars E s ++ normChars E s')) :
    (tokenizeQuery Gen.srcProg E s').sameUpToSource (tokenizeQuery Gen.srcProg E s) :=
  tokenizeQuery_of_lower_eq E hU s s' (normChars_recase E hC hF s s' hs hs' hcase hcc) hsl

theorem C11_recase_variant_src (E : Env) (hU : UnicodeFacts E.U E.K) {name : String}
    (hT : (name, E.T) ∈ Gen.srcLangs) (s s' : List Nat)
    (hs : MarkFree E.T.compose s) (hs' : MarkFree E.T.compose s')
    (hcase : s'.map E.U.lower1 = s.map E.U.lower1)
    (hcc : CaseClosedOn E (s ++ s'))
    (hsl : SepLowerOn E (normChars E s ++ normChars E s')) :
    (tokenizeQuery Gen.srcProg E s').sameUpToSource (tokenizeQuery Gen.srcProg E s) :=
  C11_recase_variant E hU (variantTablesOK_of_src hT).1 (variantTablesOK_of_src hT).2.1 s s' hs hs' hcase hcc hsl

/-- Hence the same hit list, highlighted titles and store after the call (`SorterNatural` sorter). -/
theorem C11_recase_search {S : Sorter} (hS : SorterNatural S) (E : Env) (K : Consts) (order : List ScoreType)
    (st : Store) (hU : UnicodeFacts E.U E.K) (hC : ComposeClosed E.T.compose = true)
    (hF : FoldClosed E.T.reduce = true) (s s' : List Nat)
    (hs : MarkFree E.T.compose s) (hs' : MarkFree E.T.compose s')
    (hcase : s'.map E.U.lower1 = s.map E.U.lower1)
    (hcc : CaseClosedOn E (s ++ s'))
    (hsl : SepLowerOn E (normChars E s ++ normChars E s')) :
    st.searchM S K order (tokenizeQuery Gen.srcProg E s') = st.searchM S K order (tokenizeQuery Gen.srcProg E s) :=
  C11_searchM_congr hS K order st
    (QEquiv.of_sameUpToSource (C11_recase_variant E hU hC hF s s' hs hs' hcase hcc hsl))

/-- the same for the results only, generated constants, score order and language tables -/
theorem C11_recase_search_src {S : Sorter} (hS : SorterNatural S) (E : Env) (hU : UnicodeFacts E.U E.K)
    {name : String} (hT : (name, E.T) ∈ Gen.srcLangs) (st : Store) (s s' : List Nat)
    (hs : MarkFree E.T.compose s) (hs' : MarkFree E.T.compose s')
    (hcase : s'.map E.U.lower1 = s.map E.U.lower1)
    (hcc : CaseClosedOn E (s ++ s'))
    (hsl : SepLowerOn E (normChars E s ++ normChars E s')) :
    st.search S Gen.srcConsts Gen.srcScoreOrder (tokenizeQuery Gen.srcProg E s') =
      st.search S Gen.srcConsts Gen.srcScoreOrder (tokenizeQuery Gen.srcProg E s) := by
  simp only [Store.search, C11_recase_search hS E _ _ st hU (variantTablesOK_of_src hT).1
    (variantTablesOK_of_src hT).2.1 s s' hs hs' hcase hcc hsl]

/-- With the two oracle facts assumed for ALL characters, the theorem reads: every mark-free re-casing of a
    mark-free query searches alike. -/
theorem C11_recase_search_global {S : Sorter} (hS : SorterNatural S) (E : Env) (K : Consts) (order : List ScoreType)
    (st : Store) (hU : UnicodeFacts E.U E.K) (hC : ComposeClosed E.T.compose = true)
    (hF : FoldClosed E.T.reduce = true)
    (hcc : ∀ cs, CaseClosedOn E cs) (hsl : ∀ cs, SepLowerOn E cs)
    (s s' : List Nat) (hs : MarkFree E.T.compose s) (hs' : MarkFree E.T.compose s')
    (hcase : s'.map E.U.lower1 = s.map E.U.lower1) :
    st.searchM S K order (tokenizeQuery Gen.srcProg E s') = st.searchM S K order (tokenizeQuery Gen.srcProg E s) :=
  C11_recase_search hS E K order st hU hC hF s s' hs hs' hcase (hcc _) (hsl _)

/-! #### non-vacuity: a Latin-1 oracle with the German tables, `Über uns` typed `üBER Uns` -/

/-- toy oracle with the Latin-1 letters: upper-case `A–Z`, `À–Þ` except `×`; `to_lowercase` = `+32` -/
def latinU : Unicode where
  isAlphabetic c := (decide (97 ≤ c) && decide (c ≤ 122)) || (decide (65 ≤ c) && decide (c ≤ 90)) ||
    (decide (192 ≤ c) && decide (c ≤ 255) && !decide (c = 215) && !decide (c = 247))
  isNumeric c := decide (48 ≤ c) && decide (c ≤ 57)
  isWhitespace c := decide (c = 32)
  isControl c := decide (c < 32)
  isUppercase c := (decide (65 ≤ c) && decide (c ≤ 90)) || (decide (192 ≤ c) && decide (c ≤ 222) && !decide (c = 215))
  lower1 c := if (65 ≤ c ∧ c ≤ 90) ∨ (192 ≤ c ∧ c ≤ 222 ∧ c ≠ 215) then c + 32 else c

def latinEnv (T : LangTables) : Env := { U := latinU, K := Gen.srcConsts, T := T, stem := toyStem }

theorem latinU_bounded : BoundedOracle latinU Gen.srcConsts 256 := by
  refine ⟨by decide +kernel, fun c h => ⟨if_neg (by omega), ?_⟩, by decide +kernel, by decide⟩
  simp [latinU, Unicode.isAlnum]; omega

theorem latinU_facts : UnicodeFacts latinU Gen.srcConsts := latinU_bounded.facts

theorem latinU_sepLower (T : LangTables) (cs : List Nat) : SepLowerOn (latinEnv T) cs :=
  fun c _ => latinU_bounded.sepLower c

/-- `Über uns` / `üBER Uns`: all hypotheses of `C11_recase_variant` hold -/
example :
    MarkFree (latinEnv Gen.lang_de).T.compose [220, 98, 101, 114, 32, 117, 110, 115] ∧
    MarkFree (latinEnv Gen.lang_de).T.compose [252, 66, 69, 82, 32, 85, 110, 115] ∧
    [252, 66, 69, 82, 32, 85, 110, 115].map (latinEnv Gen.lang_de).U.lower1 =
      [220, 98, 101, 114, 32, 117, 110, 115].map (latinEnv Gen.lang_de).U.lower1 ∧
    CaseClosedOn (latinEnv Gen.lang_de) ([220, 98, 101, 114, 32, 117, 110, 115] ++ [252, 66, 69, 82, 32, 85, 110, 115]) := by
  refine ⟨by decide +kernel, by decide +kernel, by decide +kernel, ?_⟩
  unfold CaseClosedOn
  decide +kernel

example : (tokenizeQuery Gen.srcProg (latinEnv Gen.lang_de) [252, 66, 69, 82, 32, 85, 110, 115]).sameUpToSource
    (tokenizeQuery Gen.srcProg (latinEnv Gen.lang_de) [220, 98, 101, 114, 32, 117, 110, 115]) :=
  C11_recase_variant (latinEnv Gen.lang_de) latinU_facts composeClosed_de foldClosed_de _ _ (by decide +kernel)
    (by decide +kernel) (by decide +kernel) (by unfold CaseClosedOn; decide +kernel) (latinU_sepLower _ _)

/-! #### the title-case letter `ǅ` (U+01C5): the pair on which the code before the D5 fix answered differently -/

/-- the ASCII toy oracle plus one title-case letter: `ǅ` (453) is alphabetic, NOT upper-case, and lower-cases
    to `ǆ` (454) -/
def titleU : Unicode :=
  { toyU with
    isAlphabetic := fun c => toyU.isAlphabetic c || decide (c = 453) || decide (c = 454),
    lower1 := fun c => if c = 453 then 454 else toyU.lower1 c }

def titleEnv : Env := { U := titleU, K := Gen.srcConsts, T := Gen.lang_none, stem := toyStem }

/-- `ǅa` and `ǅA` are re-casings of each other (the `ǅ`, which is not `is_uppercase`, is not touched). Before
    the D5 fix their tokenised queries had different characters (`ǅa` against `ǆa`, because `TextOwn::lower`
    rewrote the array only when some character was upper-case); now both are `ǆa`. Kernel-checked. -/
theorem C11_recase_titlecase :
    titleEnv.U.lower1 453 = 454 ∧ titleEnv.U.isUppercase 453 = false ∧
    [453, 65].map titleEnv.U.lower1 = [453, 97].map titleEnv.U.lower1 ∧
    (tokenizeQuery Gen.srcProg titleEnv [453, 97]).chars = [454, 97] ∧
    (tokenizeQuery Gen.srcProg titleEnv [453, 65]).chars = [454, 97] ∧
    tokenizeQuery Gen.srcProg titleEnv [453, 65] =
      { tokenizeQuery Gen.srcProg titleEnv [453, 97] with source := [453, 65] } := by
  refine ⟨by decide, by decide, by decide, by decide +kernel, by decide +kernel, by decide +kernel⟩

theorem titleU_bounded : BoundedOracle titleU Gen.srcConsts 455 := by
  refine ⟨by decide +kernel, fun c h => ⟨?_, ?_⟩, by decide +kernel, by decide⟩
  · show (if c = 453 then 454 else if 65 ≤ c ∧ c ≤ 90 then c + 32 else c) = c
    rw [if_neg (by omega), if_neg (by omega)]
  · simp [titleU, toyU, Unicode.isAlnum]; omega

theorem titleU_facts : UnicodeFacts titleU Gen.srcConsts := titleU_bounded.facts

theorem titleU_sepLower (cs : List Nat) : SepLowerOn titleEnv cs := fun c _ => titleU_bounded.sepLower c

/-- … and the same pair obtained from `C11_recase_variant`: all its hypotheses hold for `ǅa` / `ǅA` -/
example : (tokenizeQuery Gen.srcProg titleEnv [453, 65]).sameUpToSource (tokenizeQuery Gen.srcProg titleEnv [453, 97]) :=
  C11_recase_variant titleEnv titleU_facts composeClosed_none foldClosed_none _ _ (by decide) (by decide)
    (by decide) (by unfold CaseClosedOn; decide) (titleU_sepLower _)

end Lucid
