/-
  C14 — "In a store holding no more records than the limit: a title word of at least three characters is found by a
  query that spells it as two words at any split point, and two adjacent title words separated by a single
  separator character are found by a query that runs them together, provided stemming leaves that run-together
  query word unchanged."

  End-to-end assembly:
  * word level   — `wordMatch_split`, `wordMatch_joined` (`Lemmas/JoinGates.lean`): the gates and the two slice
                   loops of `word_match` accept the joined word against the plain one at the price of half a typo
                   (the separator, class `notAlpha`), and the matched part reaches into the second half;
  * candidates   — `candOK_of_inv`, `shares_gram_of_prefix` (`Lemmas/Candidates.lean`);
  * control flow — `C14_split_word_found`, `C14_joined_words_found` (`C13.lean`).
  Numeric hypotheses: `CostsOK K`, `JoinNumsOK K` (both decided at `Gen.srcConsts`).
-/
import LucidProofs.C03
import LucidProofs.Lemmas.JoinGates

namespace Lucid

/-- **C14, split spelling.** Let a store carry the trigram index of its records (`StoreIndexInv`: true of every
    reachable store) and hold no more records than its limit. Let `r` be one of its records and `w` a word of its
    title with at least three characters. Then every query whose first two words `q0 q1` are separated by exactly
    one character of class `notAlpha` (a separator) and, run together, have the characters of `w` — `w` cut at
    ANY point into two non-empty pieces — returns `r` among the results, whatever follows in the query and
    whatever the other records, ratings, language tables and the sorting oracle are.
    Hypotheses on the texts: title and query are well-formed (`TextOK`, `StemsLe`: delivered by the tokenizer, C15),
    `q0` is a finished word (in a tokenised query every word but the last is). -/
theorem C14_split_found (S : Sorter) (hS : SorterOK S) (K : Consts)
    (hC : CostsOK K = true) (hJ : JoinNumsOK K = true) (hK : 1 ≤ K.sortFactor) (hP : 1 ≤ K.prepFactor)
    (order : List ScoreType) (st : Store) (hI : StoreIndexInv st) (hlim : st.records.length ≤ st.limit)
    (ix : Nat) (r : Record) (hr : st.records[ix]? = some r) (hrt : TextOK r.title) (hrs : StemsLe r.title)
    (q : Text) (hqt : TextOK q) (hqs : StemsLe q) (q0 q1 : WordShape)
    (hq0 : q.words[0]? = some q0) (hq1 : q.words[1]? = some q1) (hfin : q0.fin = true)
    (hadj : q1.lo = q0.hi + 1) (hsepc : q.classes[q0.hi]? = some CharClass.notAlpha)
    (w : WordShape) (hw : w ∈ r.title.words) (hn : 3 ≤ w.len)
    (hchars : wchars q q0 ++ wchars q q1 = wchars r.title w) :
    ∃ res ∈ st.search S K order q, res.id = r.id ∧ res = st.render (scoreHit K order q r) := by
  have hq0m : q0 ∈ q.words := List.mem_of_getElem? hq0
  have hq1m : q1 ∈ q.words := List.mem_of_getElem? hq1
  have b0 := hqt.bounds q0 hq0m
  have b1 := hqt.bounds q1 hq1m
  have hwin := hrt.wordIn hw
  have hsp : SepPair q q0 q1 _ :=
    ⟨hqt.lens.2, b0.1, hadj, b1.1, b1.2, List.getElem?_eq_getElem (by omega), hsepc⟩
  have hc : CandOK S K st q ix r :=
    candOK_of_inv S hS K hP st hI hlim q ix r hr
      (shares_gram_of_prefix hw hq0m (wchars_ne_nil hsp.wordIn_left) ⟨_, hchars⟩)
  obtain ⟨p, hwm, hreach⟩ :=
    wordMatch_split K hC hJ hwin (hrs w hw) hn hsp (hqt.stems q1 hq1m) (hqs q1 hq1m) hchars
  exact C14_split_word_found S hS K hK order st q ix r hc hrt hqt q0 q1 hq0 hq1 hfin w hw
    (hsp.len_add_dist_le hwin hchars.symm) p hwm hreach

/-- **C14, run-together spelling.** Store as in `C14_split_found`. Let `w1 w2` be adjacent words of the title of a
    record `r`, separated by exactly one character `sep` of class `notAlpha`. Then every query whose first word `v`
    (the only word, or a finished one) has the characters of `w1` followed by those of `w2`, is at least three
    characters long, is left unchanged by stemming (`v.stem = v.len`) and does not contain `sep` (query words
    contain no separators) returns `r` among the results. -/
theorem C14_joined_found (S : Sorter) (hS : SorterOK S) (K : Consts)
    (hC : CostsOK K = true) (hJ : JoinNumsOK K = true) (hK : 1 ≤ K.sortFactor) (hP : 1 ≤ K.prepFactor)
    (order : List ScoreType) (st : Store) (hI : StoreIndexInv st) (hlim : st.records.length ≤ st.limit)
    (ix : Nat) (r : Record) (hr : st.records[ix]? = some r) (hrt : TextOK r.title) (hrs : StemsLe r.title)
    (q : Text) (hqt : TextOK q) (v : WordShape)
    (hq0 : q.words[0]? = some v) (hshape : q.words.length = 1 ∨ v.fin = true)
    (hL : 3 ≤ v.len) (hstem : v.stem = v.len)
    (w1 w2 : WordShape) (hw1 : w1 ∈ r.title.words) (hnext : r.title.words[w1.offset + 1]? = some w2)
    (hadj : w2.lo = w1.hi + 1) (sep : Nat) (hsep : r.title.chars[w1.hi]? = some sep)
    (hsepc : r.title.classes[w1.hi]? = some CharClass.notAlpha)
    (hchars : wchars q v = wchars r.title w1 ++ wchars r.title w2) (hnosep : sep ∉ wchars q v) :
    ∃ res ∈ st.search S K order q, res.id = r.id ∧ res = st.render (scoreHit K order q r) := by
  have hvm : v ∈ q.words := List.mem_of_getElem? hq0
  obtain ⟨hw2, _, _⟩ := hrt.next hw1 hnext
  have b1 := hrt.bounds w1 hw1
  have b2 := hrt.bounds w2 hw2
  have hvin := hqt.wordIn hvm
  have hsp : SepPair r.title w1 w2 sep := ⟨hrt.lens.2, b1.1, hadj, b2.1, b2.2, hsep, hsepc⟩
  -- `w1` is a prefix of `v`: the lemma for a query word that is a prefix of a title word, the texts exchanged
  obtain ⟨g, hg1, hg2⟩ := shares_gram_of_prefix hvm hw1 (wchars_ne_nil hsp.wordIn_left) ⟨_, hchars.symm⟩
  have hc : CandOK S K st q ix r :=
    candOK_of_inv S hS K hP st hI hlim q ix r hr ⟨g, hg2, hg1⟩
  refine C14_joined_words_found S hS K hK order st q ix r hc hrt hqt v hq0 hshape w1 w2 hw1 hnext
    (hsp.len_add_dist_le hvin hchars) _ (wordMatch_joined K hC hJ hsp (hrs w2 hw2) hvin hL hstem hchars hnosep) ?_
  show w2.lo < w1.lo + (v.len + 1)
  have := hsp.len_lt hvin hchars
  have : w1.len = w1.hi - w1.lo := rfl
  omega

/-- `C14_split_found` for every reachable store: the result of any sequence of `add`, `clear`, `set_limit`,
    `highlight_with` and `search` calls on a new store, every added title being well-formed. -/
theorem C14_split_found_reachable (S : Sorter) (hS : SorterOK S) (K : Consts)
    (hC : CostsOK K = true) (hJ : JoinNumsOK K = true) (hK : 1 ≤ K.sortFactor) (hP : 1 ≤ K.prepFactor)
    (order : List ScoreType) (ops : List StoreOp)
    (hops : ∀ id t rating, StoreOp.add id t rating ∈ ops → TextOK t ∧ StemsLe t)
    (hlim : ((Store.new K).run S K order ops).records.length ≤ ((Store.new K).run S K order ops).limit)
    (ix : Nat) (r : Record) (hr : ((Store.new K).run S K order ops).records[ix]? = some r)
    (q : Text) (hqt : TextOK q) (hqs : StemsLe q) (q0 q1 : WordShape)
    (hq0 : q.words[0]? = some q0) (hq1 : q.words[1]? = some q1) (hfin : q0.fin = true)
    (hadj : q1.lo = q0.hi + 1) (hsepc : q.classes[q0.hi]? = some CharClass.notAlpha)
    (w : WordShape) (hw : w ∈ r.title.words) (hn : 3 ≤ w.len)
    (hchars : wchars q q0 ++ wchars q q1 = wchars r.title w) :
    ∃ res ∈ ((Store.new K).run S K order ops).search S K order q,
      res.id = r.id ∧ res = ((Store.new K).run S K order ops).render (scoreHit K order q r) := by
  have hrt : TextOK r.title ∧ StemsLe r.title :=
    hops _ _ _ (run_new_records_add S K order ops r (List.mem_of_getElem? hr))
  exact C14_split_found S hS K hC hJ hK hP order _ (StoreIndexInv_reachable S K order ops) hlim ix r hr hrt.1 hrt.2
    q hqt hqs q0 q1 hq0 hq1 hfin hadj hsepc w hw hn hchars

/-- `C14_joined_found` for every reachable store. -/
theorem C14_joined_found_reachable (S : Sorter) (hS : SorterOK S) (K : Consts)
    (hC : CostsOK K = true) (hJ : JoinNumsOK K = true) (hK : 1 ≤ K.sortFactor) (hP : 1 ≤ K.prepFactor)
    (order : List ScoreType) (ops : List StoreOp)
    (hops : ∀ id t rating, StoreOp.add id t rating ∈ ops → TextOK t ∧ StemsLe t)
    (hlim : ((Store.new K).run S K order ops).records.length ≤ ((Store.new K).run S K order ops).limit)
    (ix : Nat) (r : Record) (hr : ((Store.new K).run S K order ops).records[ix]? = some r)
    (q : Text) (hqt : TextOK q) (v : WordShape)
    (hq0 : q.words[0]? = some v) (hshape : q.words.length = 1 ∨ v.fin = true)
    (hL : 3 ≤ v.len) (hstem : v.stem = v.len)
    (w1 w2 : WordShape) (hw1 : w1 ∈ r.title.words) (hnext : r.title.words[w1.offset + 1]? = some w2)
    (hadj : w2.lo = w1.hi + 1) (sep : Nat) (hsep : r.title.chars[w1.hi]? = some sep)
    (hsepc : r.title.classes[w1.hi]? = some CharClass.notAlpha)
    (hchars : wchars q v = wchars r.title w1 ++ wchars r.title w2) (hnosep : sep ∉ wchars q v) :
    ∃ res ∈ ((Store.new K).run S K order ops).search S K order q,
      res.id = r.id ∧ res = ((Store.new K).run S K order ops).render (scoreHit K order q r) := by
  have hrt : TextOK r.title ∧ StemsLe r.title :=
    hops _ _ _ (run_new_records_add S K order ops r (List.mem_of_getElem? hr))
  exact C14_joined_found S hS K hC hJ hK hP order _ (StoreIndexInv_reachable S K order ops) hlim ix r hr hrt.1 hrt.2
    q hqt v hq0 hshape hL hstem w1 w2 hw1 hnext hadj sep hsep hsepc hchars hnosep

/-! ### tokenised texts -/

/-- **C14, split spelling, on tokenised texts.** Titles are results of `tokenize_record`, the query is the result
    of `tokenize_query` (generated step lists), for any language tables meeting `TablesOK`, any Unicode oracle
    meeting `UnicodeFacts` and any bounded stemmer. Premises about the typed text `s`: its first two words are
    separated by exactly one character (necessarily not a letter or digit, C15) that the language's
    consonant/vowel table does not list, and run together they spell a title word `w` of at least 3 characters. -/
theorem C14_split_found_tokenized (S : Sorter) (hS : SorterOK S) (E : Env)
    (hU : UnicodeFacts E.U E.K) (hT : TablesOK E.T = true) (hSt : StemHyp E)
    (hC : CostsOK E.K = true) (hJ : JoinNumsOK E.K = true) (hK : 1 ≤ E.K.sortFactor) (hP : 1 ≤ E.K.prepFactor)
    (order : List ScoreType) (ops : List StoreOp)
    (hops : ∀ id t rating, StoreOp.add id t rating ∈ ops → ∃ s, t = tokenizeRecord Gen.srcProg E s)
    (hlim : ((Store.new E.K).run S E.K order ops).records.length ≤ ((Store.new E.K).run S E.K order ops).limit)
    (ix : Nat) (r : Record) (hr : ((Store.new E.K).run S E.K order ops).records[ix]? = some r)
    (s : List Nat) (q0 q1 : WordShape)
    (hq0 : (tokenizeQuery Gen.srcProg E s).words[0]? = some q0)
    (hq1 : (tokenizeQuery Gen.srcProg E s).words[1]? = some q1)
    (hadj : q1.lo = q0.hi + 1) (sep : Nat) (hsep : (tokenizeQuery Gen.srcProg E s).chars[q0.hi]? = some sep)
    (hsepT : getCharClass E.T sep = none)
    (w : WordShape) (hw : w ∈ r.title.words) (hn : 3 ≤ w.len)
    (hchars : wchars (tokenizeQuery Gen.srcProg E s) q0 ++ wchars (tokenizeQuery Gen.srcProg E s) q1 =
      wchars r.title w) :
    ∃ res ∈ ((Store.new E.K).run S E.K order ops).search S E.K order (tokenizeQuery Gen.srcProg E s),
      res.id = r.id ∧
      res = ((Store.new E.K).run S E.K order ops).render (scoreHit E.K order (tokenizeQuery Gen.srcProg E s) r) := by
  have hqi := tokInv_tokenizeQuery E hU hT hSt s
  have hfin : q0.fin = true :=
    hqi.fin_query_init rfl 0 q0 hq0 (by have := (List.getElem?_eq_some_iff.mp hq1).1; omega)
  have hsepc : (tokenizeQuery Gen.srcProg E s).classes[q0.hi]? = some CharClass.notAlpha := by
    rw [class_at_of_char_at _ E (tokenizeQuery_classes E s) _ _ hsep, classOf_not_alnum E sep
      (hqi.gap_not_alnum 0 q0 q1 hq0 hq1 q0.hi sep (Nat.le_refl _) (by omega) hsep) hsepT]
  exact C14_split_found_reachable S hS E.K hC hJ hK hP order ops (tokenized_ops_ok hU hT hSt hops) hlim ix r hr _
    hqi.textOK hqi.stemsLe q0 q1 hq0 hq1 hfin hadj hsepc w hw hn hchars

/-- **C14, run-together spelling, on tokenised texts.** Premises about the typed text `s`: its first word `v` has
    the characters of two adjacent title words `w1 w2`, at least three in all, and stemming leaves it unchanged
    (`v.stem = v.len`; automatic for a language without stemmer). Premise about the title: `w1` and `w2` are
    separated by exactly one character, a separator that the language's consonant/vowel table does not list.
    (That the query word does not contain the separator, and that `v` is finished unless it is the only word, are
    consequences of C15.) -/
theorem C14_joined_found_tokenized (S : Sorter) (hS : SorterOK S) (E : Env)
    (hU : UnicodeFacts E.U E.K) (hT : TablesOK E.T = true) (hSt : StemHyp E)
    (hC : CostsOK E.K = true) (hJ : JoinNumsOK E.K = true) (hK : 1 ≤ E.K.sortFactor) (hP : 1 ≤ E.K.prepFactor)
    (order : List ScoreType) (ops : List StoreOp)
    (hops : ∀ id t rating, StoreOp.add id t rating ∈ ops → ∃ s, t = tokenizeRecord Gen.srcProg E s)
    (hlim : ((Store.new E.K).run S E.K order ops).records.length ≤ ((Store.new E.K).run S E.K order ops).limit)
    (ix : Nat) (r : Record) (hr : ((Store.new E.K).run S E.K order ops).records[ix]? = some r)
    (s : List Nat) (v : WordShape)
    (hq0 : (tokenizeQuery Gen.srcProg E s).words[0]? = some v) (hL : 3 ≤ v.len) (hstem : v.stem = v.len)
    (w1 w2 : WordShape) (hw1 : w1 ∈ r.title.words) (hnext : r.title.words[w1.offset + 1]? = some w2)
    (hadj : w2.lo = w1.hi + 1) (sep : Nat) (hsep : r.title.chars[w1.hi]? = some sep)
    (hsepS : isSepChar E.U E.K sep = true) (hsepT : getCharClass E.T sep = none)
    (hchars : wchars (tokenizeQuery Gen.srcProg E s) v = wchars r.title w1 ++ wchars r.title w2) :
    ∃ res ∈ ((Store.new E.K).run S E.K order ops).search S E.K order (tokenizeQuery Gen.srcProg E s),
      res.id = r.id ∧
      res = ((Store.new E.K).run S E.K order ops).render (scoreHit E.K order (tokenizeQuery Gen.srcProg E s) r) := by
  have hqi := tokInv_tokenizeQuery E hU hT hSt s
  have hvm : v ∈ (tokenizeQuery Gen.srcProg E s).words := List.mem_of_getElem? hq0
  have hshape : (tokenizeQuery Gen.srcProg E s).words.length = 1 ∨ v.fin = true := by
    by_cases h1 : (tokenizeQuery Gen.srcProg E s).words.length = 1
    · exact Or.inl h1
    · have := (List.getElem?_eq_some_iff.mp hq0).1
      exact Or.inr (hqi.fin_query_init rfl 0 v hq0 (by omega))
  have hnosep : sep ∉ wchars (tokenizeQuery Gen.srcProg E s) v :=
    fun hm => Bool.noConfusion (hsepS.symm.trans (hqi.no_sep v hvm sep hm))
  obtain ⟨s', hs'⟩ := reachable_title_tokenized S E E.K order ops hops ix r hr
  have hsepc : r.title.classes[w1.hi]? = some CharClass.notAlpha := by
    rw [class_at_of_char_at _ E (hs' ▸ tokenizeRecord_classes E s') _ _ hsep,
      classOf_not_alnum E sep (hU.sep_not_alnum sep hsepS) hsepT]
  exact C14_joined_found_reachable S hS E.K hC hJ hK hP order ops (tokenized_ops_ok hU hT hSt hops) hlim ix r hr _
    hqi.textOK v hq0 hshape hL hstem w1 w2 hw1 hnext hadj sep hsep hsepc hchars hnosep

theorem C14_split_found_src (S : Sorter) (hS : SorterOK S)
    (st : Store) (hI : StoreIndexInv st) (hlim : st.records.length ≤ st.limit)
    (ix : Nat) (r : Record) (hr : st.records[ix]? = some r) (hrt : TextOK r.title) (hrs : StemsLe r.title)
    (q : Text) (hqt : TextOK q) (hqs : StemsLe q) (q0 q1 : WordShape)
    (hq0 : q.words[0]? = some q0) (hq1 : q.words[1]? = some q1) (hfin : q0.fin = true)
    (hadj : q1.lo = q0.hi + 1) (hsepc : q.classes[q0.hi]? = some CharClass.notAlpha)
    (w : WordShape) (hw : w ∈ r.title.words) (hn : 3 ≤ w.len)
    (hchars : wchars q q0 ++ wchars q q1 = wchars r.title w) :
    ∃ res ∈ st.search S Gen.srcConsts Gen.srcScoreOrder q,
      res.id = r.id ∧ res = st.render (scoreHit Gen.srcConsts Gen.srcScoreOrder q r) :=
  C14_split_found S hS Gen.srcConsts costsOK_src joinNumsOK_src (by decide) (by decide) Gen.srcScoreOrder
    st hI hlim ix r hr hrt hrs q hqt hqs q0 q1 hq0 hq1 hfin hadj hsepc w hw hn hchars

theorem C14_joined_found_src (S : Sorter) (hS : SorterOK S)
    (st : Store) (hI : StoreIndexInv st) (hlim : st.records.length ≤ st.limit)
    (ix : Nat) (r : Record) (hr : st.records[ix]? = some r) (hrt : TextOK r.title) (hrs : StemsLe r.title)
    (q : Text) (hqt : TextOK q) (v : WordShape)
    (hq0 : q.words[0]? = some v) (hshape : q.words.length = 1 ∨ v.fin = true)
    (hL : 3 ≤ v.len) (hstem : v.stem = v.len)
    (w1 w2 : WordShape) (hw1 : w1 ∈ r.title.words) (hnext : r.title.words[w1.offset + 1]? = some w2)
    (hadj : w2.lo = w1.hi + 1) (sep : Nat) (hsep : r.title.chars[w1.hi]? = some sep)
    (hsepc : r.title.classes[w1.hi]? = some CharClass.notAlpha)
    (hchars : wchars q v = wchars r.title w1 ++ wchars r.title w2) (hnosep : sep ∉ wchars q v) :
    ∃ res ∈ st.search S Gen.srcConsts Gen.srcScoreOrder q,
      res.id = r.id ∧ res = st.render (scoreHit Gen.srcConsts Gen.srcScoreOrder q r) :=
  C14_joined_found S hS Gen.srcConsts costsOK_src joinNumsOK_src (by decide) (by decide) Gen.srcScoreOrder
    st hI hlim ix r hr hrt hrs q hqt v hq0 hshape hL hstem w1 w2 hw1 hnext hadj sep hsep hsepc hchars hnosep

/-- C14 (split spelling) at the generated constants, step lists and score order, in every language: `T` is any
    language table meeting `TablesOK` (decided for the seven generated languages in `Lemmas/Facts.lean`). -/
theorem C14_split_found_tokenized_src (S : Sorter) (hS : SorterOK S)
    (U : Unicode) (T : LangTables) (stem : List Nat → Nat)
    (hU : UnicodeFacts U Gen.srcConsts) (hT : TablesOK T = true) (hSt : StemHyp (Gen.srcProg.env U T stem))
    (ops : List StoreOp)
    (hops : ∀ id t rating, StoreOp.add id t rating ∈ ops →
      ∃ s, t = tokenizeRecord Gen.srcProg (Gen.srcProg.env U T stem) s)
    (hlim : ((Store.new Gen.srcConsts).run S Gen.srcConsts Gen.srcScoreOrder ops).records.length
              ≤ ((Store.new Gen.srcConsts).run S Gen.srcConsts Gen.srcScoreOrder ops).limit)
    (ix : Nat) (r : Record)
    (hr : ((Store.new Gen.srcConsts).run S Gen.srcConsts Gen.srcScoreOrder ops).records[ix]? = some r)
    (s : List Nat) (q0 q1 : WordShape)
    (hq0 : (tokenizeQuery Gen.srcProg (Gen.srcProg.env U T stem) s).words[0]? = some q0)
    (hq1 : (tokenizeQuery Gen.srcProg (Gen.srcProg.env U T stem) s).words[1]? = some q1)
    (hadj : q1.lo = q0.hi + 1) (sep : Nat)
    (hsep : (tokenizeQuery Gen.srcProg (Gen.srcProg.env U T stem) s).chars[q0.hi]? = some sep)
    (hsepT : getCharClass T sep = none)
    (w : WordShape) (hw : w ∈ r.title.words) (hn : 3 ≤ w.len)
    (hchars : wchars (tokenizeQuery Gen.srcProg (Gen.srcProg.env U T stem) s) q0 ++
        wchars (tokenizeQuery Gen.srcProg (Gen.srcProg.env U T stem) s) q1 = wchars r.title w) :
    ∃ res ∈ ((Store.new Gen.srcConsts).run S Gen.srcConsts Gen.srcScoreOrder ops).search S Gen.srcConsts
        Gen.srcScoreOrder (tokenizeQuery Gen.srcProg (Gen.srcProg.env U T stem) s),
      res.id = r.id ∧
      res = ((Store.new Gen.srcConsts).run S Gen.srcConsts Gen.srcScoreOrder ops).render
              (scoreHit Gen.srcConsts Gen.srcScoreOrder (tokenizeQuery Gen.srcProg (Gen.srcProg.env U T stem) s) r) :=
  C14_split_found_tokenized S hS (Gen.srcProg.env U T stem) hU hT hSt costsOK_src joinNumsOK_src
    (show 1 ≤ Gen.srcConsts.sortFactor by decide) (show 1 ≤ Gen.srcConsts.prepFactor by decide) Gen.srcScoreOrder
    ops hops hlim ix r hr s q0 q1 hq0 hq1 hadj sep hsep hsepT w hw hn hchars

/-- C14 (run-together spelling) at the generated constants, step lists and score order, in every language. -/
theorem C14_joined_found_tokenized_src (S : Sorter) (hS : SorterOK S)
    (U : Unicode) (T : LangTables) (stem : List Nat → Nat)
    (hU : UnicodeFacts U Gen.srcConsts) (hT : TablesOK T = true) (hSt : StemHyp (Gen.srcProg.env U T stem))
    (ops : List StoreOp)
    (hops : ∀ id t rating, StoreOp.add id t rating ∈ ops →
      ∃ s, t = tokenizeRecord Gen.srcProg (Gen.srcProg.env U T stem) s)
    (hlim : ((Store.new Gen.srcConsts).run S Gen.srcConsts Gen.srcScoreOrder ops).records.length
              ≤ ((Store.new Gen.srcConsts).run S Gen.srcConsts Gen.srcScoreOrder ops).limit)
    (ix : Nat) (r : Record)
    (hr : ((Store.new Gen.srcConsts).run S Gen.srcConsts Gen.srcScoreOrder ops).records[ix]? = some r)
    (s : List Nat) (v : WordShape)
    (hq0 : (tokenizeQuery Gen.srcProg (Gen.srcProg.env U T stem) s).words[0]? = some v)
    (hL : 3 ≤ v.len) (hstem : v.stem = v.len)
    (w1 w2 : WordShape) (hw1 : w1 ∈ r.title.words) (hnext : r.title.words[w1.offset + 1]? = some w2)
    (hadj : w2.lo = w1.hi + 1) (sep : Nat) (hsep : r.title.chars[w1.hi]? = some sep)
    (hsepS : isSepChar U Gen.srcConsts sep = true) (hsepT : getCharClass T sep = none)
    (hchars : wchars (tokenizeQuery Gen.srcProg (Gen.srcProg.env U T stem) s) v =
        wchars r.title w1 ++ wchars r.title w2) :
    ∃ res ∈ ((Store.new Gen.srcConsts).run S Gen.srcConsts Gen.srcScoreOrder ops).search S Gen.srcConsts
        Gen.srcScoreOrder (tokenizeQuery Gen.srcProg (Gen.srcProg.env U T stem) s),
      res.id = r.id ∧
      res = ((Store.new Gen.srcConsts).run S Gen.srcConsts Gen.srcScoreOrder ops).render
              (scoreHit Gen.srcConsts Gen.srcScoreOrder (tokenizeQuery Gen.srcProg (Gen.srcProg.env U T stem) s) r) :=
  C14_joined_found_tokenized S hS (Gen.srcProg.env U T stem) hU hT hSt costsOK_src joinNumsOK_src
    (show 1 ≤ Gen.srcConsts.sortFactor by decide) (show 1 ≤ Gen.srcConsts.prepFactor by decide) Gen.srcScoreOrder
    ops hops hlim ix r hr s v hq0 hL hstem w1 w2 hw1 hnext hadj sep hsep hsepS hsepT hchars

namespace C14Example
open C13Example

def exEnvE : Env := Gen.srcProg.env toyU Gen.lang_en toyStem
/-- the toy oracle with the tables of `Lang::None` (no stemmer: `stem = len`) -/
def exEnvN : Env := Gen.srcProg.env toyU Gen.lang_none toyStem

/-- add "Abc" -/
def exOpsS : List StoreOp := [.add 7 (tokenizeRecord Gen.srcProg exEnvE [65, 98, 99]) 1]

theorem exOpsS_ok : ∀ id t rating, StoreOp.add id t rating ∈ exOpsS → ∃ s, t = tokenizeRecord Gen.srcProg exEnvE s := by
  intro id t rating hm
  simp only [exOpsS, List.mem_cons, StoreOp.add.injEq, List.not_mem_nil, or_false] at hm
  exact ⟨_, hm.2.1⟩

theorem exS_tok : tokenizeRecord Gen.srcProg exEnvE [65, 98, 99] =
    { words := [{ offset := 0, lo := 0, hi := 3, stem := 2, pos := none, fin := true }], source := [65, 98, 99],
      chars := [97, 98, 99], classes := [.vowel, .consonant, .consonant] } := by decide +kernel

/-- the hypotheses of `C14_split_found_tokenized_src` are met by typing "a bc" and "ab c" against the title "Abc":
    both split points of a three-letter word -/
example (s : List Nat) (hs : s = [97, 32, 98, 99] ∨ s = [97, 98, 32, 99]) :
    ∃ res ∈ ((Store.new Gen.srcConsts).run exSorter Gen.srcConsts Gen.srcScoreOrder exOpsS).search exSorter
        Gen.srcConsts Gen.srcScoreOrder (tokenizeQuery Gen.srcProg exEnvE s), res.id = 7 := by
  -- one evaluation for the two texts: the kernel then builds the function-word map of `lang_en` once
  obtain ⟨t1, t2⟩ :
      tokenizeQuery Gen.srcProg (Gen.srcProg.env toyU Gen.lang_en toyStem) [97, 32, 98, 99] =
        { words := [{ offset := 0, lo := 0, hi := 1, stem := 1, pos := some Pos.article, fin := true },
                    { offset := 1, lo := 2, hi := 4, stem := 1, pos := none, fin := false }],
          source := [97, 32, 98, 99], chars := [97, 32, 98, 99],
          classes := [.vowel, .notAlpha, .consonant, .consonant] } ∧
      tokenizeQuery Gen.srcProg (Gen.srcProg.env toyU Gen.lang_en toyStem) [97, 98, 32, 99] =
        { words := [{ offset := 0, lo := 0, hi := 2, stem := 1, pos := none, fin := true },
                    { offset := 1, lo := 3, hi := 4, stem := 1, pos := none, fin := false }],
          source := [97, 98, 32, 99], chars := [97, 98, 32, 99],
          classes := [.vowel, .consonant, .notAlpha, .consonant] } := by decide +kernel
  have key := fun s q0 q1 hq0 hq1 hadj hsep hchars =>
    (C14_split_found_tokenized_src exSorter exSorter_ok toyU Gen.lang_en toyStem toyU_facts tablesOK_en
      (toyStemHyp _ (by decide)) exOpsS exOpsS_ok (by decide : (1 : Nat) ≤ 10) 0
      { ix := 0, id := 7, title := tokenizeRecord Gen.srcProg exEnvE [65, 98, 99], rating := 1 }
      rfl s q0 q1 hq0 hq1 hadj 32 hsep (by decide +kernel)
      { offset := 0, lo := 0, hi := 3, stem := 2, pos := none, fin := true } (by rw [exS_tok]; decide) (by decide)
      hchars).imp fun _ h => And.intro h.1 h.2.1
  rcases hs with rfl | rfl
  · exact key [97, 32, 98, 99] _ _ (by rw [t1]; rfl) (by rw [t1]; rfl) (by decide) (by rw [t1]; rfl)
      (by rw [t1, exS_tok]; decide)
  · exact key [97, 98, 32, 99] _ _ (by rw [t2]; rfl) (by rw [t2]; rfl) (by decide) (by rw [t2]; rfl)
      (by rw [t2, exS_tok]; decide)

/-- add "Ab c" and "Abc def" -/
def exOpsJ : List StoreOp :=
  [.add 8 (tokenizeRecord Gen.srcProg exEnvN [65, 98, 32, 99]) 1,
   .add 9 (tokenizeRecord Gen.srcProg exEnvN [65, 98, 99, 32, 100, 101, 102]) 1]

theorem exOpsJ_ok : ∀ id t rating, StoreOp.add id t rating ∈ exOpsJ → ∃ s, t = tokenizeRecord Gen.srcProg exEnvN s := by
  intro id t rating hm
  simp only [exOpsJ, List.mem_cons, StoreOp.add.injEq, List.not_mem_nil, or_false] at hm
  rcases hm with hm | hm
  · exact ⟨_, hm.2.1⟩
  · exact ⟨_, hm.2.1⟩

/-- the hypotheses of `C14_joined_found_tokenized_src` are met by typing "abc" against the title "Ab c" -/
example :
    ∃ res ∈ ((Store.new Gen.srcConsts).run exSorter Gen.srcConsts Gen.srcScoreOrder exOpsJ).search exSorter
        Gen.srcConsts Gen.srcScoreOrder (tokenizeQuery Gen.srcProg exEnvN [97, 98, 99]), res.id = 8 := by
  obtain ⟨res, h1, h2, _⟩ :=
    C14_joined_found_tokenized_src exSorter exSorter_ok toyU Gen.lang_none toyStem toyU_facts tablesOK_none
      (stemHyp_of_no_stemmer _ rfl) exOpsJ exOpsJ_ok (by decide : (2 : Nat) ≤ 10) 0
      { ix := 0, id := 8, title := tokenizeRecord Gen.srcProg exEnvN [65, 98, 32, 99], rating := 1 }
      rfl [97, 98, 99]
      { offset := 0, lo := 0, hi := 3, stem := 3, pos := none, fin := false } (by decide +kernel) (by decide) rfl
      { offset := 0, lo := 0, hi := 2, stem := 2, pos := none, fin := true }
      { offset := 1, lo := 3, hi := 4, stem := 1, pos := none, fin := true }
      (by decide +kernel) (by decide +kernel) (by decide) 32 (by decide +kernel) (by decide) (by decide +kernel)
      (by decide +kernel)
  exact ⟨res, h1, h2⟩

/-- … and by typing "abcdef" against the title "Abc def" -/
example :
    ∃ res ∈ ((Store.new Gen.srcConsts).run exSorter Gen.srcConsts Gen.srcScoreOrder exOpsJ).search exSorter
        Gen.srcConsts Gen.srcScoreOrder (tokenizeQuery Gen.srcProg exEnvN [97, 98, 99, 100, 101, 102]), res.id = 9 := by
  obtain ⟨res, h1, h2, _⟩ :=
    C14_joined_found_tokenized_src exSorter exSorter_ok toyU Gen.lang_none toyStem toyU_facts tablesOK_none
      (stemHyp_of_no_stemmer _ rfl) exOpsJ exOpsJ_ok (by decide : (2 : Nat) ≤ 10) 1
      { ix := 1, id := 9, title := tokenizeRecord Gen.srcProg exEnvN [65, 98, 99, 32, 100, 101, 102], rating := 1 }
      rfl [97, 98, 99, 100, 101, 102]
      { offset := 0, lo := 0, hi := 6, stem := 6, pos := none, fin := false } (by decide +kernel) (by decide) rfl
      { offset := 0, lo := 0, hi := 3, stem := 3, pos := none, fin := true }
      { offset := 1, lo := 4, hi := 7, stem := 3, pos := none, fin := true }
      (by decide +kernel) (by decide +kernel) (by decide) 32 (by decide +kernel) (by decide) (by decide +kernel)
      (by decide +kernel)
  exact ⟨res, h1, h2⟩

end C14Example

end Lucid
