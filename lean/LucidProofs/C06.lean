/-
  C06 — the hit list is each record's own verdict, cut to the best `limit`.
  Statements only; helper lemmas live in LucidProofs/Lemmas.
-/
import LucidModel.Gen.Consts
import LucidProofs.Lemmas.Orders
import LucidProofs.Lemmas.TopK

namespace Lucid

/-- The returned hits are a bounded top-`limit` selection (relation `TopK`) of the filtered scored hits,
    for every store, query, limit (0 included), sorting oracle and buffer factor ≥ 1. -/
theorem C06_topk (S : Sorter) (hS : SorterOK S) (K : Consts) (hK : 1 ≤ K.sortFactor)
    (order : List ScoreType) (st : Store) (q : Text) :
    ∃ top, TopK hitLe st.limit (st.hitsOf K order q (st.candidatesM S K q).1) top ∧
      st.search S K order q = top.map st.render := by
  refine ⟨_, hS.topK hitLe_preorder K.sortFactor st.limit _, ?_⟩
  simp [Store.search, Store.searchM]

/-- A search never returns more hits than the limit. -/
theorem C06_length_le_limit (S : Sorter) (hS : SorterOK S) (K : Consts) (hK : 1 ≤ K.sortFactor)
    (order : List ScoreType) (st : Store) (q : Text) :
    (st.search S K order q).length ≤ st.limit := by
  obtain ⟨top, ht, he⟩ := C06_topk S hS K hK order st q
  rw [he, List.length_map]
  exact ht.length_le

theorem C06_length_le_limit_src (S : Sorter) (hS : SorterOK S) (st : Store) (q : Text) :
    (st.search S Gen.srcConsts Gen.srcScoreOrder q).length ≤ st.limit :=
  C06_length_le_limit S hS Gen.srcConsts (by decide) Gen.srcScoreOrder st q

/-- non-vacuity: that merge sort is a sorter satisfying the assumption is shown in `Lemmas/TopK.lean` (`mergeSorter_ok`);
    here: the generated buffer factor meets the hypothesis. -/
example : 1 ≤ Gen.srcConsts.sortFactor := by decide

end Lucid
