/-
  C17 — the Jaccard pre-filter: for any two character sequences the similarity equals |A∩B| / |A∪B| of
  their sets of distinct characters (1 for two empty sequences), is symmetric, lies in [0,1], and is
  unaffected by repetitions, by order, or by what was compared before.

  The model returns the similarity as the pair `(inter, union)`; the real code returns `inter / union`
  as `f64`.  The helper lemmas live in `LucidProofs/Lemmas/Jaccard.lean`.
  Also: the Jaccard part of C19 (`C19_jaccard_in_range`).
-/
import LucidProofs.Lemmas.Jaccard

namespace Lucid

/-- **C17 (value).**  For two non-empty sequences the result is the pair
    (number of distinct characters occurring in both, number of distinct characters occurring in either),
    i.e. (|A∩B|, |A∪B|) of the two sets of distinct characters; two empty sequences give (1,1)
    (similarity 1) and exactly one empty sequence gives (0,1) (similarity 0). -/
theorem C17_value :
    (∀ a b : List Nat, a ≠ [] → b ≠ [] → jaccard a b = (interCard a b, unionCard a b)) ∧
    jaccard [] [] = (1, 1) ∧
    (∀ b : List Nat, b ≠ [] → jaccard [] b = (0, 1)) ∧
    (∀ a : List Nat, a ≠ [] → jaccard a [] = (0, 1)) :=
  ⟨fun _ _ => jaccard_of_ne_nil, rfl, fun _ => jaccard_nil_left, fun _ => jaccard_nil_right⟩

/-- The same value written with plain filters over the sorted de-duplicated sequences:
    |A∩B| = #{x ∈ set a | x ∈ set b}, |A∪B| = |set a| + #{x ∈ set b | x ∉ set a}. -/
theorem C17_value_filter (a b : List Nat) (ha : a ≠ []) (hb : b ≠ []) :
    jaccard a b = (((natSet a).filter (· ∈ natSet b)).length,
                   (natSet a).length + ((natSet b).filter (· ∉ natSet a)).length) := by
  rw [jaccard, jaccardM_fst_of_ne_nil _ ha hb, jacMerge_spec (natSet_asc a) (natSet_asc b)]

/-- What the set sizes mean: `natSet` is a strictly ascending list (so without repetitions) with exactly
    the members of its argument; `interCard`/`unionCard` are lengths of such lists whose members are
    exactly the characters in both / in either sequence; and inclusion–exclusion holds. -/
theorem C17_card_meaning (a b : List Nat) :
    List.Pairwise (· < ·) (natSet a) ∧ (∀ x, x ∈ natSet a ↔ x ∈ a) ∧
    (∃ l : List Nat, l.Nodup ∧ (∀ x, x ∈ l ↔ x ∈ a ∧ x ∈ b) ∧ interCard a b = l.length) ∧
    (∃ l : List Nat, l.Nodup ∧ (∀ x, x ∈ l ↔ x ∈ a ∨ x ∈ b) ∧ unionCard a b = l.length) ∧
    interCard a b + unionCard a b = distinctCard a + distinctCard b := by
  refine ⟨natSet_asc a, fun _ => mem_natSet, ⟨_, ((natSet_asc a).filter _).nodup, ?_, rfl⟩,
    ⟨_, natSet_nodup _, ?_, rfl⟩, interCard_add_unionCard a b⟩
  · intro x; simp [mem_natSet]
  · intro x; simp [mem_natSet]

example : jaccard [3, 1, 3, 2] [2, 5, 3, 3] = (2, 4) := by
  rw [C17_value.1 _ _ (by simp) (by simp)]; decide
example : (interCard [3, 1, 3, 2] [2, 5, 3, 3], unionCard [3, 1, 3, 2] [2, 5, 3, 3]) = (2, 4) := by decide

/-- **C17 (symmetry).**  Swapping the two sequences does not change the similarity. -/
theorem C17_symm (a b : List Nat) : jaccard a b = jaccard b a := by
  rw [jaccard, jaccard, jaccardM_fst, jaccardM_fst, jacMerge_comm]
  simp only [or_comm, and_comm]

example : jaccard [7, 1, 7] [1, 2] = jaccard [1, 2] [7, 1, 7] := C17_symm _ _

/-- **C17 (range).**  The numerator never exceeds the denominator and the denominator is positive, so
    the quotient `inter / union` is a well-defined number in [0,1] (never NaN, never a division by 0). -/
theorem C17_range (a b : List Nat) : (jaccard a b).1 ≤ (jaccard a b).2 ∧ 0 < (jaccard a b).2 := by
  rw [jaccard, jaccardM_fst]
  split
  · split <;> decide
  · rename_i h
    have hu := (jacMerge_union_ge (natSet a) (natSet b)).1
    have : 0 < (natSet a).length := List.length_pos_iff.2 fun e => h (Or.inl (natSet_eq_nil.1 e))
    exact ⟨jacMerge_inter_le_union _ _, by omega⟩

/-- Similarity 1 (inter = union) exactly when the two sequences have the same set of characters. -/
theorem C17_eq_one_iff (a b : List Nat) :
    (jaccard a b).1 = (jaccard a b).2 ↔ (∀ x, x ∈ a ↔ x ∈ b) := by
  rw [jaccard, jaccardM_fst]
  split
  · rename_i h0
    split
    · rename_i h1; rw [h1.1, h1.2]; simp
    · -- exactly one sequence is empty: similarity 0, and the members differ
      rename_i h1
      refine ⟨fun h => absurd h (by decide), fun h => absurd ?_ h1⟩
      exact h0.elim (fun e => ⟨e, (eq_nil_congr h).1 e⟩) fun e => ⟨(eq_nil_congr h).2 e, e⟩
  · exact (jacMerge_fst_eq_snd_iff (natSet_asc a) (natSet_asc b)).trans
      (forall_congr' fun x => by rw [mem_natSet, mem_natSet])

/-- **C17 (repetitions, order).**  The similarity depends only on *which* characters occur in each
    sequence: if `a`, `a'` have the same members and `b`, `b'` have the same members, the results agree. -/
theorem C17_perm_rep (a a' b b' : List Nat) (ha : ∀ x, x ∈ a ↔ x ∈ a') (hb : ∀ x, x ∈ b ↔ x ∈ b') :
    jaccard a b = jaccard a' b' := by
  rw [jaccard, jaccard, jaccardM_fst, jaccardM_fst, natSet_congr ha, natSet_congr hb]
  simp only [eq_nil_congr ha, eq_nil_congr hb]

example : jaccard [1, 2, 2, 3] [5, 5, 1] = jaccard [3, 1, 2] [1, 5] :=
  C17_perm_rep _ _ _ _ (by intro x; simp; omega) (by intro x; simp; omega)

/-- Reordering either sequence does not change the similarity. -/
theorem C17_perm (a a' b b' : List Nat) (ha : a.Perm a') (hb : b.Perm b') :
    jaccard a b = jaccard a' b' :=
  C17_perm_rep a a' b b' (fun _ => ha.mem_iff) (fun _ => hb.mem_iff)

example : [1, 2, 3].Perm [3, 1, 2] := by decide

/-- Reversal is a special case of reordering. -/
theorem C17_reverse (a b : List Nat) : jaccard a.reverse b.reverse = jaccard a b :=
  C17_perm_rep _ _ _ _ (fun _ => List.mem_reverse) (fun _ => List.mem_reverse)

/-- Repeating a sequence (every character twice as often) does not change the similarity. -/
theorem C17_rep (a b : List Nat) : jaccard (a ++ a) (b ++ b) = jaccard a b :=
  C17_perm_rep _ _ _ _ (fun x => by simp) (fun x => by simp)

/-- Repeating a single character that is already present does not change the similarity. -/
theorem C17_rep_one (a b : List Nat) (c : Nat) (hc : c ∈ a) : jaccard (c :: a) b = jaccard a b :=
  C17_perm_rep _ _ _ _ (fun _ => List.mem_cons.trans (or_iff_right_of_imp fun e => e ▸ hc)) (fun _ => Iff.rfl)

/-- **C17 (history).**  The value returned by a call does not depend on the contents of the two reusable
    buffers, i.e. `Jaccard::similarity` with any buffer state equals the pure function `jaccard`. -/
theorem C17_history_independent (st : JacState) (a b : List Nat) : (jaccardM st a b).1 = jaccard a b := by
  rw [jaccard, jaccardM_fst, jaccardM_fst]

/-- buffer state after a sequence of earlier calls on one `Jaccard` object -/
def jacRun (st : JacState) (calls : List (List Nat × List Nat)) : JacState :=
  calls.foldl (fun st c => (jaccardM st c.1 c.2).2) st

/-- Whatever was compared before on the same `Jaccard` object (any number of calls, any arguments,
    starting from any buffer state), the next call returns the pure value. -/
theorem C17_history_independent_calls (st : JacState) (calls : List (List Nat × List Nat)) (a b : List Nat) :
    (jaccardM (jacRun st calls) a b).1 = jaccard a b :=
  C17_history_independent _ a b

/-- the earlier calls really leave stale data in the buffers (longer than the next inputs) -/
example : jacRun JacState.new [([9, 9, 8, 7, 6, 5], [1]), ([], [4]), ([2, 2], [2, 3, 4, 5, 6])]
    = { set1 := [2], set2 := [2, 3, 4, 5, 6] } := by decide

example : (jaccardM { set1 := [2], set2 := [2, 3, 4, 5, 6] } [3, 1] [1, 4, 4]).1 = (1, 3) := by
  rw [C17_history_independent, C17_value.1 _ _ (by simp) (by simp)]; decide

/-- **C19 (Jaccard part).**  `jacMergeIdx` is the Rust `while i1 < len1 && i2 < len2` loop with the two
    `get_unchecked` reads replaced by checked reads (`none` on an out-of-range index).
    (1) whenever the loop condition holds both reads succeed;
    (2) run from the initial state with `len1 + len2` iterations of fuel (or more) the checked loop never
        yields `none` and returns exactly the model's `jacMerge` — for *arbitrary* lists, sorted or not;
    (3) hence the value of every `Jaccard::similarity` call on non-empty inputs is produced by the checked
        loop on the two buffers without any failed read. -/
theorem C19_jaccard_in_range :
    (∀ (l1 l2 : List Nat) (i1 i2 : Nat), i1 < l1.length ∧ i2 < l2.length →
        ∃ x y, l1[i1]? = some x ∧ l2[i2]? = some y) ∧
    (∀ (l1 l2 : List Nat) (fuel : Nat), l1.length + l2.length ≤ fuel →
        jacMergeIdx l1 l2 0 0 0 0 fuel = some (jacMerge l1 l2)) ∧
    (∀ (st : JacState) (a b : List Nat), a ≠ [] → b ≠ [] →
        jacMergeIdx (natSet a) (natSet b) 0 0 0 0 ((natSet a).length + (natSet b).length)
          = some (jaccardM st a b).1) := by
  refine ⟨fun l1 l2 i1 i2 h => ⟨l1[i1]'h.1, l2[i2]'h.2, List.getElem?_eq_getElem h.1, List.getElem?_eq_getElem h.2⟩,
    jacMergeIdx_eq_jacMerge, fun st a b ha hb => ?_⟩
  rw [jaccardM_fst_of_ne_nil st ha hb, jacMergeIdx_eq_jacMerge _ _ _ (Nat.le_refl _)]

example : jacMergeIdx [1, 3, 5, 9] [2, 3, 9, 10, 11] 0 0 0 0 9 = some (2, 7) := by decide
/-- fuel is what makes `none` reachable at all: too little fuel is reported, not silently accepted -/
example : jacMergeIdx [1, 3, 5, 9] [2, 3, 9, 10, 11] 0 0 0 0 2 = none := by decide

end Lucid
