/-
  C10 — a store that has been through any sequence of adds, clears, limit / marker changes and searches
  answers every search exactly like a newly constructed store holding the same records, limit and markers.
  Statements only; helper lemmas live in LucidProofs/Lemmas/Store.lean.
-/
import LucidModel.Gen.Consts
import LucidProofs.Lemmas.Store

namespace Lucid

/-- After ANY sequence of operations (add record, clear, set limit, set markers, search with empty or
    non-empty query) on a new store, every search returns exactly what the freshly constructed store
    `Store.rebuild` returns: `Store::new()`, the current limit, the current markers, then the currently held
    records added in the same order. Holds for every sorting routine `S` (no assumption at all),
    all constants and every score order. -/
theorem C10_fresh_equivalent (S : Sorter) (K : Consts) (order : List ScoreType) (ops : List StoreOp) (q : Text) :
    (Store.run S K order (Store.new K) ops).search S K order q =
      (Store.rebuild K (Store.run S K order (Store.new K) ops)).search S K order q :=
  search_eq_rebuild (StoreInv_reachable S K order ops) order q

/-- The reference store of `C10_fresh_equivalent` is determined by what the caller supplied and nothing else:
    two stores with the same `(id, title, rating)` triples in the same order, the same limit and the same markers
    have the same `rebuild`; it has an empty cache, `next_ix` = number of records, the given limit and markers,
    and its records carry exactly the supplied data. -/
theorem C10_rebuild_is_fresh (K : Consts) (st : Store) :
    (∀ st2 : Store, st2.records.map Record.data = st.records.map Record.data → st2.limit = st.limit →
        st2.dividers = st.dividers → Store.rebuild K st2 = Store.rebuild K st) ∧
    Store.rebuild K st =
      (((Store.new K).setLimit st.limit).setDividers st.dividers.1 st.dividers.2).addAll (st.records.map Record.data) ∧
    (Store.rebuild K st).topIxs = none ∧
    (Store.rebuild K st).nextIx = st.records.length ∧
    (Store.rebuild K st).limit = st.limit ∧
    (Store.rebuild K st).dividers = st.dividers ∧
    (Store.rebuild K st).records.map Record.data = st.records.map Record.data := by
  refine ⟨fun st2 h1 h2 h3 => by simp only [Store.rebuild, h1, h2, h3], rfl, ?_⟩
  simp [rebuild_eq, mkRecords_map_data]

/-- For a reachable store the reference store is the store itself with the cache dropped
    (so "same records" includes the positions `ix`, and the trigram index is the one a fresh store builds). -/
theorem C10_rebuild_reachable (S : Sorter) (K : Consts) (order : List ScoreType) (ops : List StoreOp) :
    Store.rebuild K (Store.run S K order (Store.new K) ops) =
      { Store.run S K order (Store.new K) ops with topIxs := none } :=
  rebuild_eq_dropCache (StoreInv_reachable S K order ops)

/-- Running a search (any query `q'`, empty or not) does not change the answer of any later search `q`:
    in particular repeating a search gives the same answer. Holds for EVERY store value, reachable or not. -/
theorem C10_search_idempotent (S : Sorter) (K : Consts) (order : List ScoreType) (st : Store) (q' q : Text) :
    (st.apply S K order (.search q')).search S K order q = st.search S K order q :=
  search_after_search S K order st q' q

/-- A search changes nothing but (possibly) the cache. -/
theorem C10_search_only_cache (S : Sorter) (K : Consts) (order : List ScoreType) (st : Store) (q : Text) :
    (st.apply S K order (.search q)).nextIx = st.nextIx ∧ (st.apply S K order (.search q)).records = st.records ∧
    (st.apply S K order (.search q)).limit = st.limit ∧ (st.apply S K order (.search q)).dividers = st.dividers ∧
    (st.apply S K order (.search q)).index = st.index :=
  searchM_snd_fields S K order st q

/-- Records added after an empty-query search show up in the next one: after `search q0; add r` the cache is
    gone, so the candidate list of the next empty query is recomputed from the records including the new one. -/
theorem C10_add_visible_to_empty_query (S : Sorter) (K : Consts) (order : List ScoreType) (st : Store)
    (q0 : Text) (hq0 : q0.words = []) (id : Nat) (title : Text) (rating : Nat) :
    let st' := (st.apply S K order (.search q0)).apply S K order (.add id title rating)
    st'.topIxs = none ∧
    st'.records = st.records ++ [{ ix := st.nextIx, id := id, title := title, rating := rating }] ∧
    (st'.candidatesM S K q0).1 = (limitSort (S.sort topLe) K.sortFactor st.limit
        (st.records ++ [{ ix := st.nextIx, id := id, title := title, rating := rating }])).map (·.ix) := by
  obtain ⟨h1, h2, h3, _, _⟩ := searchM_snd_fields S K order st q0
  refine ⟨rfl, ?_, ?_⟩
  · simp [Store.apply, Store.add, h1, h2]
  · simp [Store.apply, Store.add, Store.candidatesM, Store.topIxsM, hq0, h1, h2, h3]

/-- Every operation sequence keeps the invariant `StoreInv` (positions, index and cache tied to the records). -/
theorem C10_invariant (S : Sorter) (K : Consts) (order : List ScoreType) (ops : List StoreOp) :
    StoreInv S K (Store.run S K order (Store.new K) ops) := StoreInv_reachable S K order ops

theorem C10_fresh_equivalent_src (S : Sorter) (ops : List StoreOp) (q : Text) :
    (Store.run S Gen.srcConsts Gen.srcScoreOrder (Store.new Gen.srcConsts) ops).search S Gen.srcConsts Gen.srcScoreOrder q =
      (Store.rebuild Gen.srcConsts (Store.run S Gen.srcConsts Gen.srcScoreOrder (Store.new Gen.srcConsts) ops)).search
        S Gen.srcConsts Gen.srcScoreOrder q :=
  C10_fresh_equivalent S Gen.srcConsts Gen.srcScoreOrder ops q

theorem C10_search_idempotent_src (S : Sorter) (st : Store) (q' q : Text) :
    (st.apply S Gen.srcConsts Gen.srcScoreOrder (.search q')).search S Gen.srcConsts Gen.srcScoreOrder q =
      st.search S Gen.srcConsts Gen.srcScoreOrder q :=
  C10_search_idempotent S Gen.srcConsts Gen.srcScoreOrder st q' q

theorem C10_add_visible_to_empty_query_src (S : Sorter) (st : Store) (q0 : Text) (hq0 : q0.words = [])
    (id : Nat) (title : Text) (rating : Nat) :
    ((st.apply S Gen.srcConsts Gen.srcScoreOrder (.search q0)).apply S Gen.srcConsts Gen.srcScoreOrder
        (.add id title rating)).topIxs = none :=
  (C10_add_visible_to_empty_query S Gen.srcConsts Gen.srcScoreOrder st q0 hq0 id title rating).1

/-! ### non-vacuity: a concrete run that exercises the cache (identity "sorter": the theorems assume nothing of it) -/

private def exS : Sorter := ⟨fun _ l => l⟩
private def exT (c : Nat) : Text := { words := [⟨0, 0, 1, 1, none, true⟩], source := [c], chars := [c], classes := [.any] }
private def exQ : Text := { words := [], source := [], chars := [], classes := [] }
private def exOps : List StoreOp :=
  [.add 7 (exT 97) 3, .search exQ, .setLimit 1, .add 8 (exT 98) 5, .search exQ, .setDividers [60] [62], .clear, .add 9 (exT 99) 1, .search exQ]

example : (Store.run exS Gen.srcConsts Gen.srcScoreOrder (Store.new Gen.srcConsts) exOps).topIxs = some (1, [0]) := by
  decide
example : (Store.run exS Gen.srcConsts Gen.srcScoreOrder (Store.new Gen.srcConsts) exOps).search exS Gen.srcConsts
    Gen.srcScoreOrder exQ = [⟨9, [99]⟩] := by decide

end Lucid
