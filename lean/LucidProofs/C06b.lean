/-
  C06 (second part) — "A search never returns more hits than the limit and never returns a record twice. Whether a
  record is a hit, and how its title is highlighted, depends only on that record and the query: it is the same as
  in a store containing that record alone. When the store holds at most ten times the limit, the hits are exactly
  the first `limit` entries of the list obtained with an unlimited limit, which in turn contains every record that
  is a hit on its own." (exact order compared for pairwise distinct ratings)

  * never more than the limit: `C06_length_le_limit` (C06.lean);
  * never a record twice: `C06_nodup`, `C06_ids_nodup` (here);
  * locality: `C06_local_sound`, `C06_results_are_verdicts`, `C06_single_store` (here);
  * unlimited list contains every own-hit: `C06_complete`, `C06_complete_perm` (here);
  * prefix of the unlimited list: `C06_prefix_of_unlimited` (here).

  Vocabulary (Lemmas/Locality.lean, Lemmas/Store.lean):
  `StoreInv S K st` — invariant of every reachable store (`C10_invariant`); `mkStore` = freshly built store;
  `st.listed S K order q` — the records behind the results, in result order;
  `verdict K dv q (id, title, rating)` — the result the record yields on its own, or `none`;
  `DistinctRatings recs` — pairwise distinct ratings.
  The helper lemmas live in LucidProofs/Lemmas/Locality.lean.
-/
import LucidModel.Gen.Consts
import LucidProofs.Lemmas.Locality
import LucidProofs.C12

namespace Lucid

/-! ### locality: a result is the record's own verdict -/

/-- Every search result is the verdict of the record behind it: the results are, in order, the verdicts
    (`verdict` = what the record yields in a store of its own, see `C06_single_store`) of the listed records,
    which are records of the store. Any store satisfying the invariant, any query, any limit. -/
theorem C06_results_are_verdicts (S : Sorter) (hS : SorterOK S) (K : Consts) (hK : 1 ≤ K.sortFactor)
    (order : List ScoreType) (st : Store) (h : StoreInv S K st) (q : Text) :
    (st.search S K order q).map some = (st.listed S K order q).map (fun r => verdict K st.dividers q r.data) ∧
    ∀ r ∈ st.listed S K order q, r ∈ st.records := by
  refine ⟨?_, fun r hr => (listed_isHit hS h q order r hr).1⟩
  rw [search_eq_listed hS order st q, List.map_map]
  exact List.map_congr_left fun r hr =>
    (verdict_of_isHit K order st.dividers q r.data (listed_isHit hS h q order r hr).2).symm

/-- Whether a record is a hit and how its title is highlighted depends only on that record and the query:
    every result of a search on ANY store satisfying the invariant (every reachable store, `C10_invariant`)
    is the verdict of one of the store's records — the result that record yields in a store containing it alone
    (`C06_single_store`). -/
theorem C06_local_sound (S : Sorter) (hS : SorterOK S) (K : Consts) (hK : 1 ≤ K.sortFactor)
    (order : List ScoreType) (st : Store) (h : StoreInv S K st) (q : Text) :
    ∀ res ∈ st.search S K order q, ∃ r ∈ st.records, verdict K st.dividers q r.data = some res := by
  intro res hres
  obtain ⟨he, hsub⟩ := C06_results_are_verdicts S hS K hK order st h q
  obtain ⟨r, hr, hv⟩ := List.mem_map.mp (he ▸ List.mem_map_of_mem (f := some) hres)
  exact ⟨r, hsub r hr, hv⟩

/-- A store containing one record `d = (id, title, rating)` alone (any limit ≥ 1, any markers) returns exactly the
    verdict of that record: one result if `verdict … = some res`, none otherwise. -/
theorem C06_single_store (S : Sorter) (hS : SorterOK S) (K : Consts) (hK : 1 ≤ K.sortFactor)
    (hP : 1 ≤ K.prepFactor) (order : List ScoreType) (limit : Nat) (hl : 1 ≤ limit) (dv : List Nat × List Nat)
    (d : Nat × Text × Nat) (q : Text) :
    (mkStore K limit dv [d]).search S K order q = (verdict K dv q d).toList := by
  rw [mkStore_search hS hP order limit dv [d] q hl _ (.refl _)]
  · by_cases hh : isHit K q d.2.1 = true
    · simp [hh, verdict_of_isHit K order dv q d hh]
    · simp [hh, verdict]
  all_goals by_cases hh : isHit K q d.2.1 = true <;> simp [hh, TopK.NoTies]

/-! ### no record twice; every own-hit listed; prefix of the unlimited list -/

/-- A search never returns a record twice: the results are the rendered hits of the listed records, which are
    records of the store at pairwise distinct positions. Any store satisfying the invariant, any query (with words:
    the trigram candidates are duplicate-free, `C18_nodup`; without: the top-rated selection is). -/
theorem C06_nodup (S : Sorter) (hS : SorterOK S) (K : Consts) (hK : 1 ≤ K.sortFactor)
    (order : List ScoreType) (st : Store) (h : StoreInv S K st) (q : Text) :
    st.search S K order q =
      (st.listed S K order q).map (fun r => renderWith st.dividers (scoreHit K order q r)) ∧
    ((st.listed S K order q).map (·.ix)).Nodup ∧ (st.listed S K order q).Nodup ∧
    ∀ r ∈ st.listed S K order q, r ∈ st.records :=
  ⟨search_eq_listed hS order st q, List.pairwise_map.mpr (listed_pairwise_ix hS h q order),
    (listed_pairwise_ix hS h q order).imp (fun hne e => hne (congrArg _ e)),
    fun r hr => (listed_isHit hS h q order r hr).1⟩

/-- … in particular, when the records of the store have pairwise distinct ids, no id occurs twice in the results. -/
theorem C06_ids_nodup (S : Sorter) (hS : SorterOK S) (K : Consts) (hK : 1 ≤ K.sortFactor)
    (order : List ScoreType) (st : Store) (h : StoreInv S K st) (q : Text)
    (hid : (st.records.map (·.id)).Nodup) :
    ((st.search S K order q).map (·.id)).Nodup := by
  obtain ⟨he, _, hn, hsub⟩ := C06_nodup S hS K hK order st h q
  rw [he, List.map_map]
  have hinj := inj_of_pairwise_ne (fun r : Record => r.id) st.records (List.pairwise_map.mp hid)
  exact List.pairwise_map.mpr (hn.imp_of_mem fun {a b} ha hb hne e => hne (hinj a (hsub a ha) b (hsub b hb) e))

/-- The unlimited list contains every record that is a hit on its own: when the store holds no more records than
    the limit (and the candidate cap `limit·prepFactor` is therefore not reached), the results are – up to order –
    exactly the verdicts of all records of the store. -/
theorem C06_complete_perm (S : Sorter) (hS : SorterOK S) (K : Consts) (hK : 1 ≤ K.sortFactor)
    (hP : 1 ≤ K.prepFactor) (order : List ScoreType) (st : Store) (h : StoreInv S K st) (q : Text)
    (hlen : st.records.length ≤ st.limit) :
    (st.search S K order q).Perm (st.records.filterMap (fun r => verdict K st.dividers q r.data)) := by
  have hcap : st.records.length ≤ st.limit * K.prepFactor :=
    Nat.le_trans hlen (Nat.le_mul_of_pos_right _ hP)
  have hp := ((listed_TopK_pool hS h q order).of_perm (pool_perm hS h q hcap (.inr hlen))).perm_of_length_le
    (Nat.le_trans (List.length_filter_le _ _) hlen)
  have e : (fun r : Record => verdict K st.dividers q r.data) =
      fun r => if isHit K q r.title then some (renderWith st.dividers (scoreHit K order q r)) else none :=
    funext fun r => by
      split
      · exact verdict_of_isHit K order st.dividers q r.data ‹_›
      · exact verdict_of_not_isHit K st.dividers q r.data (Bool.eq_false_iff.mpr ‹_›)
  rw [search_eq_listed hS, e, ← List.filterMap_filter, List.filterMap_eq_map']
  exact hp.map _

/-- … hence every record whose verdict is `some res` has `res` among the results. -/
theorem C06_complete (S : Sorter) (hS : SorterOK S) (K : Consts) (hK : 1 ≤ K.sortFactor)
    (hP : 1 ≤ K.prepFactor) (order : List ScoreType) (st : Store) (h : StoreInv S K st) (q : Text)
    (hlen : st.records.length ≤ st.limit) (r : Record) (hr : r ∈ st.records) (res : Result)
    (hv : verdict K st.dividers q r.data = some res) : res ∈ st.search S K order q :=
  (C06_complete_perm S hS K hK hP order st h q hlen).mem_iff.mpr (List.mem_filterMap.mpr ⟨r, hr, hv⟩)

/-- `C06_prefix_of_unlimited` (below) for a query with at least one word and ANY score order that contains the rating -/
theorem C06_prefix_of_unlimited_wordy (S : Sorter) (hS : SorterOK S) (K : Consts) (hK : 1 ≤ K.sortFactor)
    (order : List ScoreType) (hr : ScoreType.rating ∈ order)
    (st : Store) (h : StoreInv S K st) (q : Text) (hw : q.words ≠ []) (l L : Nat) (hlL : l ≤ L)
    (hcap : st.records.length ≤ l * K.prepFactor)
    (hd : DistinctRatings (st.records.map Record.data)) :
    (st.setLimit l).search S K order q = ((st.setLimit L).search S K order q).take l := by
  have hcapL : st.records.length ≤ L * K.prepFactor := Nat.le_trans hcap (Nat.mul_le_mul_right _ hlL)
  have hl := StoreInv_setLimit h l
  have hL := StoreInv_setLimit h L
  -- both pools hold all own-hits; without ties the selection for `l` is a prefix of the one for `L`
  have := TopK.eq_take_of_le (dataLe_preorder K order q)
    (dataLe_antisymm K order hr q (List.Pairwise.sublist List.filter_sublist hd))
    ((listed_data_TopK hS order hl q).of_perm (pool_data_perm hS hl q hcap (.inl hw)))
    ((listed_data_TopK hS order hL q).of_perm (pool_data_perm hS hL q hcapL (.inl hw))) hlL
  rw [search_eq_data hS, search_eq_data hS, this, List.map_take]
  rfl

/-- With pairwise distinct ratings and at most `l·prepFactor` (source: `10·l`) records, the results for limit `l`
    are exactly the first `l` results for any larger limit `L` – in particular for an "unlimited" `L` ≥ number of
    records, whose list contains every own-hit (`C06_complete`). Score order of the source. -/
theorem C06_prefix_of_unlimited (S : Sorter) (hS : SorterOK S) (K : Consts) (hK : 1 ≤ K.sortFactor)
    (st : Store) (h : StoreInv S K st) (q : Text) (l L : Nat) (hlL : l ≤ L)
    (hcap : st.records.length ≤ l * K.prepFactor)
    (hd : DistinctRatings (st.records.map Record.data)) :
    (st.setLimit l).search S K Gen.srcScoreOrder q = ((st.setLimit L).search S K Gen.srcScoreOrder q).take l := by
  by_cases hw : q.words = []
  · rw [C12_distinct_exact_results S hS K hK _ (StoreInv_setLimit h l) q hw hd.records,
      C12_distinct_exact_results S hS K hK _ (StoreInv_setLimit h L) q hw hd.records, ← List.map_take,
      List.take_take]
    simp only [Store.setLimit]
    rw [Nat.min_eq_left hlL]
  · exact C06_prefix_of_unlimited_wordy S hS K hK _ (by decide) st h q hw l L hlL hcap hd

/-- the freshly built stores: `mkStore … l …` versus `mkStore … L …` -/
theorem C06_prefix_of_unlimited_mkStore (S : Sorter) (hS : SorterOK S) (K : Consts) (hK : 1 ≤ K.sortFactor)
    (dv : List Nat × List Nat) (recs : List (Nat × Text × Nat)) (q : Text) (l L : Nat) (hlL : l ≤ L)
    (hcap : recs.length ≤ l * K.prepFactor) (hd : DistinctRatings recs) :
    (mkStore K l dv recs).search S K Gen.srcScoreOrder q =
      ((mkStore K L dv recs).search S K Gen.srcScoreOrder q).take l := by
  have h := StoreInv_fresh S K L dv recs
  have := C06_prefix_of_unlimited S hS K hK (mkStore K L dv recs) h q l L hlL
    (by rw [mkStore_records_length]; exact hcap) (by rw [mkStore_records_data]; exact hd)
  rw [mkStore_setLimit, mkStore_setLimit] at this
  exact this

/-! ### at the constants generated from the source (`prepFactor = 10`, `sortFactor = 2`) -/

theorem C06_local_sound_src (S : Sorter) (hS : SorterOK S) (st : Store) (h : StoreInv S Gen.srcConsts st)
    (q : Text) :
    ∀ res ∈ st.search S Gen.srcConsts Gen.srcScoreOrder q,
      ∃ r ∈ st.records, verdict Gen.srcConsts st.dividers q r.data = some res :=
  C06_local_sound S hS Gen.srcConsts (by decide) Gen.srcScoreOrder st h q

theorem C06_single_store_src (S : Sorter) (hS : SorterOK S) (limit : Nat) (hl : 1 ≤ limit)
    (dv : List Nat × List Nat) (d : Nat × Text × Nat) (q : Text) :
    (mkStore Gen.srcConsts limit dv [d]).search S Gen.srcConsts Gen.srcScoreOrder q
      = (verdict Gen.srcConsts dv q d).toList :=
  C06_single_store S hS Gen.srcConsts (by decide) (by decide) Gen.srcScoreOrder limit hl dv d q

/-- every store reachable from `Store.new` by adds, clears, setters and searches meets the hypothesis -/
theorem C06_local_sound_reachable_src (S : Sorter) (hS : SorterOK S) (ops : List StoreOp) (q : Text) :
    let st := Store.run S Gen.srcConsts Gen.srcScoreOrder (Store.new Gen.srcConsts) ops
    ∀ res ∈ st.search S Gen.srcConsts Gen.srcScoreOrder q,
      ∃ r ∈ st.records, verdict Gen.srcConsts st.dividers q r.data = some res :=
  C06_local_sound_src S hS _ (StoreInv_reachable S _ _ ops) q

theorem C06_nodup_src (S : Sorter) (hS : SorterOK S) (st : Store) (h : StoreInv S Gen.srcConsts st) (q : Text) :
    st.search S Gen.srcConsts Gen.srcScoreOrder q =
      (st.listed S Gen.srcConsts Gen.srcScoreOrder q).map
        (fun r => renderWith st.dividers (scoreHit Gen.srcConsts Gen.srcScoreOrder q r)) ∧
    ((st.listed S Gen.srcConsts Gen.srcScoreOrder q).map (·.ix)).Nodup ∧
    (st.listed S Gen.srcConsts Gen.srcScoreOrder q).Nodup ∧
    ∀ r ∈ st.listed S Gen.srcConsts Gen.srcScoreOrder q, r ∈ st.records :=
  C06_nodup S hS Gen.srcConsts (by decide) Gen.srcScoreOrder st h q

theorem C06_ids_nodup_src (S : Sorter) (hS : SorterOK S) (st : Store) (h : StoreInv S Gen.srcConsts st) (q : Text)
    (hid : (st.records.map (·.id)).Nodup) :
    ((st.search S Gen.srcConsts Gen.srcScoreOrder q).map (·.id)).Nodup :=
  C06_ids_nodup S hS Gen.srcConsts (by decide) Gen.srcScoreOrder st h q hid

theorem C06_complete_src (S : Sorter) (hS : SorterOK S) (st : Store) (h : StoreInv S Gen.srcConsts st) (q : Text)
    (hlen : st.records.length ≤ st.limit) (r : Record) (hr : r ∈ st.records) (res : Result)
    (hv : verdict Gen.srcConsts st.dividers q r.data = some res) :
    res ∈ st.search S Gen.srcConsts Gen.srcScoreOrder q :=
  C06_complete S hS Gen.srcConsts (by decide) (by decide) Gen.srcScoreOrder st h q hlen r hr res hv

theorem C06_prefix_of_unlimited_src (S : Sorter) (hS : SorterOK S) (st : Store) (h : StoreInv S Gen.srcConsts st)
    (q : Text) (l L : Nat) (hlL : l ≤ L) (hcap : st.records.length ≤ l * 10)
    (hd : DistinctRatings (st.records.map Record.data)) :
    (st.setLimit l).search S Gen.srcConsts Gen.srcScoreOrder q =
      ((st.setLimit L).search S Gen.srcConsts Gen.srcScoreOrder q).take l :=
  C06_prefix_of_unlimited S hS Gen.srcConsts (by decide) st h q l L hlL hcap hd

/-! ### non-vacuity -/

section Examples
private def exT (c : Nat) : Text :=
  { words := [⟨0, 0, 1, 1, none, true⟩], source := [c], chars := [c], classes := [.any] }
private def exRecs : List (Nat × Text × Nat) := [(7, exT 97, 3), (8, exT 98, 9), (9, exT 97, 5)]

example : SorterOK mergeSorter := mergeSorter_ok
example : 1 ≤ Gen.srcConsts.sortFactor ∧ 1 ≤ Gen.srcConsts.prepFactor := by decide
example : StoreInv mergeSorter Gen.srcConsts (mkStore Gen.srcConsts 2 ([91], [93]) exRecs) := StoreInv_fresh ..
example : DistinctRatings exRecs := by unfold DistinctRatings; decide
example : exRecs.length ≤ 2 * Gen.srcConsts.prepFactor := by decide
example : ((mkStore Gen.srcConsts 2 ([91], [93]) exRecs).records.map (·.id)).Nodup := by decide
/-- a sorting routine meeting `SorterOK` whose treatment of ties depends on the length of its input (as that of an
    unstable sort such as `sort_unstable_by` may) -/
private def oddSorter : Sorter :=
  ⟨fun le l => if l.length = 2 then locInsSorter.sort le l.reverse else locInsSorter.sort le l⟩

private theorem oddSorter_ok : SorterOK oddSorter := by
  intro α le P
  refine ⟨fun l => ?_, fun l => ?_⟩
  · show (if l.length = 2 then locInsSorter.sort le l.reverse else locInsSorter.sort le l).Perm l
    split
    · exact ((locInsSorter_ok le P).perm _).trans (List.reverse_perm l)
    · exact (locInsSorter_ok le P).perm _
  · show (if l.length = 2 then locInsSorter.sort le l.reverse else locInsSorter.sort le l).Pairwise _
    split
    · exact (locInsSorter_ok le P).sorted _
    · exact (locInsSorter_ok le P).sorted _

private def exQ : Text := { words := [], source := [], chars := [], classes := [] }
private def exTie : List (Nat × Text × Nat) := [(7, exT 97, 3), (8, exT 97, 3), (9, exT 97, 3)]

/-- COUNTEREXAMPLE with ties: three records with equal title and rating. With limit 1 the bounded selection sorts
    two-element buffers, with limit 3 one three-element buffer; a sorting routine that breaks ties differently on
    different lengths (allowed by `SorterOK`) then returns record 9 for limit 1, but record 7 as the first of the
    unlimited list. Hence `DistinctRatings` cannot be dropped from `C06_prefix_of_unlimited`. -/
example : SorterOK oddSorter ∧ exTie.length ≤ 1 * Gen.srcConsts.prepFactor ∧
    (mkStore Gen.srcConsts 1 ([91], [93]) exTie).search oddSorter Gen.srcConsts Gen.srcScoreOrder exQ
      = [⟨9, [97]⟩] ∧
    ((mkStore Gen.srcConsts 3 ([91], [93]) exTie).search oddSorter Gen.srcConsts Gen.srcScoreOrder exQ).take 1
      = [⟨7, [97]⟩] := ⟨oddSorter_ok, by decide, by decide +kernel, by decide +kernel⟩

/-- … whereas with distinct ratings the limit-1 answer is the head of the limit-3 answer (instance of the theorem) -/
example :
    (mkStore Gen.srcConsts 1 ([91], [93]) exRecs).search oddSorter Gen.srcConsts Gen.srcScoreOrder exQ
      = [⟨8, [98]⟩] ∧
    (mkStore Gen.srcConsts 3 ([91], [93]) exRecs).search oddSorter Gen.srcConsts Gen.srcScoreOrder exQ
      = [⟨8, [98]⟩, ⟨9, [97]⟩, ⟨7, [97]⟩] := by decide +kernel
end Examples

end Lucid
