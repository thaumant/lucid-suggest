/-
  C12b — what an empty query displays, end to end: the title shown for a record is the text that was added, after
  Unicode composition (`Lang::unicode_compose`, the first half of `normalize`), with NUL characters removed.
  Nothing else of the tokenizer (reduction of diacritics, lower-casing, splitting, stripping) shows in the title.

  Assembly: `C12_results` (the hits are the listed records rendered by `plainTitle`), `C12_plain_title`
  (`plainTitle` = source minus NULs when the word slices are well-formed), `hlSafe_of_textOK` with no match
  (well-formedness from `TextOK`), `TokInv.textOK` and `TokInv.source` (C15: the tokenizer keeps
  `source` equal to the composed input up to NUL padding).
-/
import LucidProofs.C01
import LucidProofs.C12

namespace Lucid

theorem plainTitle_of_textOK {t : Text} (ht : TextOK t) : plainTitle t = t.source.filter (· != 0) :=
  C12_plain_title t (hlSafe_of_textOK (rm := []) ht (fun m hm => by simp at hm))

/-- **The displayed form of a tokenised title.** For the text `tokenize_record(s)` of a raw string `s`, in any
    language (`TablesOK`), any Unicode oracle meeting `UnicodeFacts`, any bounded stemmer: the unhighlighted title
    is `unicode_compose(s)` with NULs removed. -/
theorem C12_plain_title_tokenized (E : Env) (hU : UnicodeFacts E.U E.K) (hT : TablesOK E.T = true) (hSt : StemHyp E)
    (s : List Nat) :
    plainTitle (tokenizeRecord Gen.srcProg E s) = (compose E.T s).filter (· ≠ 0) := by
  have hi := tokInv_tokenizeRecord E hU hT hSt s
  rw [plainTitle_of_textOK hi.textOK, filter_bne_eq_filter_ne]
  exact hi.source

/-- **C12, the titles.** In every store reached from `Store::new` by any sequence of operations whose added titles
    are results of `tokenize_record` (any language meeting `TablesOK`, any Unicode oracle meeting `UnicodeFacts`,
    any bounded stemmer), a query without words returns, for each listed record, the record's id and its `source`
    text with the NUL padding removed — and that text is the composed raw input with NULs removed: if the record
    was added as the raw string `s`, the title shown is `(compose E.T s).filter (· ≠ 0)`, whatever the markers. -/
theorem C12_title_is_source (S : Sorter) (hS : SorterOK S) (E : Env)
    (hU : UnicodeFacts E.U E.K) (hT : TablesOK E.T = true) (hSt : StemHyp E) (hK : 1 ≤ E.K.sortFactor)
    (order : List ScoreType) (ops : List StoreOp)
    (hops : ∀ id t rating, StoreOp.add id t rating ∈ ops → ∃ s, t = tokenizeRecord Gen.srcProg E s)
    (q : Text) (hq : q.words = []) :
    let st := (Store.new E.K).run S E.K order ops
    st.search S E.K order q =
        (st.listed S E.K order q).map (fun r => ({ id := r.id, title := r.title.source.filter (· ≠ 0) } : Result)) ∧
      ∀ r ∈ st.listed S E.K order q, r ∈ st.records ∧
        ∀ s, r.title = tokenizeRecord Gen.srcProg E s →
          r.title.source.filter (· ≠ 0) = (compose E.T s).filter (· ≠ 0) := by
  intro st
  have hinv : StoreInv S E.K st := StoreInv_reachable S E.K order ops
  have hrec : ∀ r ∈ st.records, ∃ s, r.title = tokenizeRecord Gen.srcProg E s :=
    fun r hr => hops _ _ _ (run_new_records_add S E.K order ops r hr)
  have hsub := fun r hr => (listed_isHit hS hinv q order r hr).1
  refine ⟨?_, fun r hr => ⟨hsub r hr, fun s hs => ?_⟩⟩
  · rw [C12_results S hS E.K hK order st hinv q hq]
    apply List.map_congr_left
    intro r hr
    obtain ⟨s, hs⟩ := hrec r (hsub r hr)
    have hi := tokInv_tokenizeRecord E hU hT hSt s
    rw [hs, plainTitle_of_textOK hi.textOK, filter_bne_eq_filter_ne]
  · exact hs ▸ (tokInv_tokenizeRecord E hU hT hSt s).source

/-- **C12, the titles, over raw strings.** Run any sequence of API calls (`ApiOp` of `C01.lean`: add a raw title,
    set the limit, set the markers, clear, search a raw query) on a new store; then ask a query whose tokenisation
    has no word (e.g. the empty string, blanks, punctuation only). Every hit `res` is one of the records added by
    an `add id title rating` call of the sequence, and its displayed title is that raw `title` after Unicode
    composition with NULs removed: nothing is highlighted, nothing else is changed. -/
theorem C12_api_title_is_input (S : Sorter) (hS : SorterOK S) (E : Env)
    (hU : UnicodeFacts E.U E.K) (hT : TablesOK E.T = true) (hSt : StemHyp E) (hK : 1 ≤ E.K.sortFactor)
    (order : List ScoreType) (ops : List ApiOp) (query : List Nat)
    (hq : (tokenizeQuery Gen.srcProg E query).words = []) :
    ∀ res ∈ ((Store.new E.K).run S E.K order (ops.map (ApiOp.toStoreOp Gen.srcProg E))).search S E.K order
        (tokenizeQuery Gen.srcProg E query),
      ∃ title rating, ApiOp.add res.id title rating ∈ ops ∧ res.title = (compose E.T title).filter (· ≠ 0) := by
  intro res hres
  have hinv := StoreInv_reachable S E.K order (ops.map (ApiOp.toStoreOp Gen.srcProg E))
  rw [C12_results S hS E.K hK order _ hinv _ hq] at hres
  obtain ⟨r, hr, rfl⟩ := List.mem_map.mp hres
  have hmem := (listed_isHit hS hinv _ order r hr).1
  obtain ⟨op, hop, e⟩ := List.mem_map.mp (run_new_records_add S E.K order _ r hmem)
  cases op <;> simp only [ApiOp.toStoreOp, StoreOp.add.injEq, reduceCtorEq] at e
  rename_i id title rating
  obtain ⟨rfl, e2, rfl⟩ := e
  exact ⟨title, r.rating, hop, show plainTitle r.title = _ from e2 ▸ C12_plain_title_tokenized E hU hT hSt title⟩

theorem C12_title_is_source_src (S : Sorter) (hS : SorterOK S) (U : Unicode) (T : LangTables) (stem : List Nat → Nat)
    (hU : UnicodeFacts U Gen.srcConsts) (hT : TablesOK T = true) (hSt : StemHyp (Gen.srcProg.env U T stem))
    (ops : List StoreOp)
    (hops : ∀ id t rating, StoreOp.add id t rating ∈ ops →
      ∃ s, t = tokenizeRecord Gen.srcProg (Gen.srcProg.env U T stem) s)
    (q : Text) (hq : q.words = []) :
    let st := (Store.new Gen.srcConsts).run S Gen.srcConsts Gen.srcScoreOrder ops
    st.search S Gen.srcConsts Gen.srcScoreOrder q =
        (st.listed S Gen.srcConsts Gen.srcScoreOrder q).map
          (fun r => ({ id := r.id, title := r.title.source.filter (· ≠ 0) } : Result)) ∧
      ∀ r ∈ st.listed S Gen.srcConsts Gen.srcScoreOrder q, r ∈ st.records ∧
        ∀ s, r.title = tokenizeRecord Gen.srcProg (Gen.srcProg.env U T stem) s →
          r.title.source.filter (· ≠ 0) = (compose T s).filter (· ≠ 0) :=
  C12_title_is_source S hS (Gen.srcProg.env U T stem) hU hT hSt (show 1 ≤ Gen.srcConsts.sortFactor by decide)
    Gen.srcScoreOrder ops hops q hq

theorem C12_api_title_is_input_src (S : Sorter) (hS : SorterOK S) (U : Unicode) (T : LangTables)
    (stem : List Nat → Nat) (hU : UnicodeFacts U Gen.srcConsts) (hT : TablesOK T = true)
    (hSt : StemHyp (Gen.srcProg.env U T stem)) (ops : List ApiOp) (query : List Nat)
    (hq : (tokenizeQuery Gen.srcProg (Gen.srcProg.env U T stem) query).words = []) :
    ∀ res ∈ ((Store.new Gen.srcConsts).run S Gen.srcConsts Gen.srcScoreOrder
          (ops.map (ApiOp.toStoreOp Gen.srcProg (Gen.srcProg.env U T stem)))).search S Gen.srcConsts
        Gen.srcScoreOrder (tokenizeQuery Gen.srcProg (Gen.srcProg.env U T stem) query),
      ∃ title rating, ApiOp.add res.id title rating ∈ ops ∧ res.title = (compose T title).filter (· ≠ 0) :=
  C12_api_title_is_input S hS (Gen.srcProg.env U T stem) hU hT hSt (show 1 ≤ Gen.srcConsts.sortFactor by decide)
    Gen.srcScoreOrder ops query hq

/-! ### non-vacuity: the toy oracle of `C15.lean`, English tables; "Abc def" and "xy" added, query "!" -/

namespace C12bExample
open C03Example

example : (tokenizeQuery Gen.srcProg exEnv [33]).words = [] := by decide +kernel

example : plainTitle (tokenizeRecord Gen.srcProg exEnv [65, 98, 99, 32, 100, 101, 102]) =
    [65, 98, 99, 32, 100, 101, 102] := by
  rw [C12_plain_title_tokenized exEnv toyU_facts tablesOK_en (toyStemHyp _ (by decide))]
  decide +kernel

example : ∀ res ∈ ((Store.new Gen.srcConsts).run mergeSorter Gen.srcConsts Gen.srcScoreOrder
      ([ApiOp.add 42 [65, 98, 99, 32, 100, 101, 102] 7, .search [], .add 43 [120, 121] 9].map
        (ApiOp.toStoreOp Gen.srcProg exEnv))).search mergeSorter Gen.srcConsts Gen.srcScoreOrder
      (tokenizeQuery Gen.srcProg exEnv [33]),
    ∃ title rating, ApiOp.add res.id title rating ∈
        [ApiOp.add 42 [65, 98, 99, 32, 100, 101, 102] 7, .search [], .add 43 [120, 121] 9] ∧
      res.title = (compose Gen.lang_en title).filter (· ≠ 0) :=
  C12_api_title_is_input_src mergeSorter mergeSorter_ok toyU Gen.lang_en toyStem toyU_facts tablesOK_en
    (toyStemHyp _ (by decide)) _ [33] (by decide +kernel)

end C12bExample

end Lucid
