/-
  C01 — no trap site ever fires.

  "Adding records with arbitrary Unicode titles, changing the limit or the highlight markers, and searching with
  arbitrary Unicode queries always return normally in every supported language: no panic, abort,
  arithmetic-overflow trap or hang. A build with overflow and debug checks enabled returns exactly the same hits
  as an unchecked (shipping-style) build, so no result depends on silent integer wrap-around."

  `LucidModel/Safe.lean` models, for every function of the pipeline, the conjunction of the conditions under
  which no `usize` subtraction underflows, no index or slice is out of range, no `unwrap`/`panic!`/
  `debug_assert!` fires and no unchecked access leaves its buffer, on the path the function actually takes.
  The theorems below say these Booleans are `true` for every input reachable through the API.

  "No hang" is not a separate theorem: every function of the model (`LucidModel/*.lean`) is a total Lean
  function accepted by the termination checker (structural recursion over the input lists; the loops of the
  source are bounded `for` loops and iterator chains over finite vectors), so every call returns.

  Lemmas: `Lemmas/SafeTok.lean` (tokenizer), `Lemmas/SafeMatch.lean` (`word_match`, `text_match`, scoring and
  highlighting of one record), `Lemmas/Index.lean` (trigram index), `Lemmas/Store.lean`,
  `Lemmas/Locality.lean` (candidate positions).
-/
import LucidProofs.Lemmas.SafeTok
import LucidProofs.C03
import LucidProofs.Lemmas.SafeMatch
import LucidProofs.Lemmas.Locality

namespace Lucid

/-! ### stores described by their invariants -/

theorem wordsInBounds_of_textOK {t : Text} (h : TextOK t) : t.wordsInBounds = true :=
  (wordsInBounds_iff t).2 fun w hw => ⟨Nat.le_of_lt (h.bounds w hw).1, (h.bounds w hw).2⟩

theorem addSafe_of_inv {st : Store} (hI : StoreIndexInv st) {t : Text} (ht : TextOK t) : st.addSafe t = true := by
  obtain ⟨h1, h2⟩ := hI
  have h3 := h2.addSafe t
  rw [List.length_map, ← h1] at h3
  unfold Store.addSafe gramsSafe
  rw [h3, wordsInBounds_of_textOK ht, decide_eq_true h1]
  rfl

theorem searchSafe_of_inv (S : Sorter) (hS : SorterOK S) (K : Consts) (hC : CostsOK K = true)
    (hT : ThresholdOK K = true) (order : List ScoreType) {st : Store}
    (hV : StoreInv S K st) (hR : ∀ r ∈ st.records, TextOK r.title)
    {q : Text} (hq : TextOK q) : st.searchSafe S K order q = true := by
  unfold Store.searchSafe
  simp only [Bool.and_eq_true]
  refine ⟨⟨?_, ?_⟩, ?_⟩
  · split
    · simp only [gramsSafe, wordsInBounds_of_textOK hq, hV.indexInv.2.prepareSafe q, Bool.and_self]
    · rfl
  · rw [List.all_eq_true]
    intro ix hix
    exact decide_eq_true (candidates_in_range S hS K hV q ix hix)
  · rw [List.all_eq_true]
    intro r hr
    obtain ⟨ix, _, hget⟩ := List.mem_filterMap.mp hr
    exact hitSafe_ok K hC hT order hq (hR r (List.mem_of_getElem? hget))

/-! ### no trap site fires: tokenizer, matcher, `add`, `search` -/

/-- **C01 (tokenizer).** `tokenize_query` and `tokenize_record` return normally on every input text in every
    language: the `panic!` of `normalize` for more than one word cannot fire, the NUL-padding subtraction
    `norm.len() - word.len()` cannot underflow, and every slice `chars[lo..hi]` taken by `split`, `strip`,
    `set_pos` and `set_stem` is in range.
    Hypotheses: the Unicode oracle satisfies `UnicodeFacts` (checked against Rust's `std` on all scalars by the
    harness) and the language tables satisfy `TablesOK` (decided by the kernel for the seven generated
    languages). Nothing is assumed of the Snowball oracle. -/
theorem C01_tokenize_safe (E : Env) (hU : UnicodeFacts E.U E.K) (hT : TablesOK E.T = true) (s : List Nat) :
    runStepsSafe E Gen.srcQuerySteps s = true ∧ runStepsSafe E Gen.srcRecordSteps s = true :=
  ⟨runStepsSafe_query E hT s, runStepsSafe_record E hT s⟩

/-- **C01 (`word_match`, `text_match`, scoring one record).** For any two tokenised texts — whatever the
    words are — `text_match` returns normally: the `dist`/`join` subtractions, every `word_match` call (views in
    range, every unchecked access of the distance matrix and cost vectors in range (C19) on the reused matrix,
    `stem - 1`, the checked cell read `dists.get(qslice + 1, rslice + 1)`, the `debug_assert!`s of `new_pair`),
    the `debug_assert!`s and the subtraction of `split`, all stores into the two scratch vectors and the `usize`
    score `match_len - 2·ceil(typos)`; and scoring, filtering and highlighting the record return normally too
    (`word_len - match_len`, every slice of the title).
    Hypotheses: edit costs `CostsOK`, threshold `ThresholdOK` (both decided on the generated constants). -/
theorem C01_match_safe (K : Consts) (hC : CostsOK K = true) (hT : ThresholdOK K = true) (order : List ScoreType)
    (q : Text) (r : Record) (hq : TextOK q) (hr : TextOK r.title) :
    textMatchSafe K r.title q = true ∧ hitSafe K order q r = true :=
  ⟨textMatchSafe_ok K hC hT hr hq, hitSafe_ok K hC hT order hq hr⟩

/-- **C01 (`Store::add`).** In every store reached from `Store::new` by any sequence of adds, clears, limit and
    marker changes and searches, adding a tokenised title returns normally: the position counter equals the
    number of records, every word slice read by `collect_grams` is in range, and the `debug_assert!` "postings
    strictly increasing" of the trigram index holds. -/
theorem C01_add_safe (S : Sorter) (K : Consts) (order : List ScoreType) (ops : List StoreOp)
    (t : Text) (ht : TextOK t) : ((Store.new K).run S K order ops).addSafe t = true :=
  addSafe_of_inv (StoreInv_reachable S K order ops).indexInv ht

/-- **C01 (`Store::search`).** In every store reached from `Store::new` by any sequence of operations in which
    every added title is a tokenised text, searching with a tokenised query returns normally: the word slices
    read by `collect_grams`, the unchecked counter increments of the trigram index (`ix < len`), the indexing
    `self.records[ix]` of every candidate position, and scoring/filtering/highlighting of every candidate record
    (`C01_match_safe`).
    Hypotheses: `SorterOK S` (the sort routine returns a sorted permutation), `1 ≤ sortFactor`, `CostsOK`,
    `ThresholdOK`. -/
theorem C01_search_safe (S : Sorter) (hS : SorterOK S) (K : Consts) (hC : CostsOK K = true)
    (hT : ThresholdOK K = true) (hK : 1 ≤ K.sortFactor) (order : List ScoreType) (ops : List StoreOp)
    (hops : ∀ id t rating, StoreOp.add id t rating ∈ ops → TextOK t) (q : Text) (hq : TextOK q) :
    ((Store.new K).run S K order ops).searchSafe S K order q = true :=
  searchSafe_of_inv S hS K hC hT order (StoreInv_reachable S K order ops)
    (fun r hr => hops _ _ _ (run_new_records_add S K order ops r hr)) hq

/-! ### the API over raw strings -/

/-- the calls of the public API on one store, with raw (untokenised) texts -/
inductive ApiOp where
  | add (id : Nat) (title : List Nat) (rating : Nat)
  | setLimit (n : Nat)
  | setMarkers (l r : List Nat)
  | clear
  | search (query : List Nat)
deriving Repr, DecidableEq

def ApiOp.toStoreOp (P : Prog) (E : Env) : ApiOp → StoreOp
  | .add id title rating => .add id (tokenizeRecord P E title) rating
  | .setLimit n => .setLimit n
  | .setMarkers l r => .setDividers l r
  | .clear => .clear
  | .search query => .search (tokenizeQuery P E query)

/-- no trap site fires during this call on store `st` -/
def ApiOp.safe (S : Sorter) (P : Prog) (E : Env) (st : Store) : ApiOp → Bool
  | .add _ title _ => runStepsSafe E P.recordSteps title && st.addSafe (tokenizeRecord P E title)
  | .search query => runStepsSafe E P.querySteps query && st.searchSafe S P.K P.order (tokenizeQuery P E query)
  | _ => true

def apiRunSafe (S : Sorter) (P : Prog) (E : Env) : Store → List ApiOp → Bool
  | _, [] => true
  | st, op :: ops => op.safe S P E st && apiRunSafe S P E (st.apply S P.K P.order (op.toStoreOp P E)) ops

theorem ApiOp.safe_of_inv (S : Sorter) (hS : SorterOK S) (E : Env) (hK : E.K = Gen.srcConsts)
    (hU : UnicodeFacts E.U Gen.srcConsts) (hT : TablesOK E.T = true) (hSt : StemHyp E) {st : Store}
    (hV : StoreInv S Gen.srcConsts st) (hR : ∀ r ∈ st.records, TextOK r.title) (op : ApiOp) :
    op.safe S Gen.srcProg E st = true := by
  cases op with
  | add id title rating =>
    exact Bool.and_eq_true_iff.2 ⟨runStepsSafe_record E hT title,
      addSafe_of_inv hV.indexInv (C15_record E hK hU hT hSt title).textOK⟩
  | search query =>
    exact Bool.and_eq_true_iff.2 ⟨runStepsSafe_query E hT query,
      searchSafe_of_inv S hS Gen.srcConsts costsOK_src thresholdOK_src Gen.srcScoreOrder hV hR
        (C15_query E hK hU hT hSt query).textOK⟩
  | _ => rfl

theorem apiRunSafe_of_inv (S : Sorter) (hS : SorterOK S) (E : Env) (hK : E.K = Gen.srcConsts)
    (hU : UnicodeFacts E.U Gen.srcConsts) (hT : TablesOK E.T = true) (hSt : StemHyp E) (ops : List ApiOp) :
    ∀ st : Store, StoreInv S Gen.srcConsts st → (∀ r ∈ st.records, TextOK r.title) →
      apiRunSafe S Gen.srcProg E st ops = true := by
  induction ops with
  | nil => intro _ _ _; rfl
  | cons op ops ih =>
    intro st hV hR
    refine Bool.and_eq_true_iff.2 ⟨ApiOp.safe_of_inv S hS E hK hU hT hSt hV hR op, ih _ (StoreInv_apply hV _ _) ?_⟩
    intro r hr
    rcases run_records_from_add S _ _ [op.toStoreOp Gen.srcProg E] st r hr with h | h
    · exact hR r h
    · cases op <;> simp only [ApiOp.toStoreOp, List.mem_singleton, StoreOp.add.injEq, reduceCtorEq] at h
      exact h.2.1 ▸ (C15_record E hK hU hT hSt _).textOK

/-- **C01 for the library as generated from the source.** Take any sequence of API calls on a new store — add a
    record with an arbitrary title and rating, set the limit, set the highlight markers, clear, search with an
    arbitrary query — in any of the languages. Then no trap site of the model fires in any call of the sequence:
    not in the tokenizer run on the raw title or query, not in `Store::add`, not in `Store::search`.

    "Trap site" is the list of `LucidModel/Safe.lean`: every `usize` subtraction (NUL padding in `normalize`,
    `Word::dist`, `WordView::join`, `stem - 1`, `split`, `match_len - 2·ceil(typos)`, `word_len - match_len`,
    `len()` of words and matches), every slice or index (word views into `chars`/`classes`, `collect_grams`,
    the checked distance-matrix read of `word_match`, the scratch vectors of `text_match`, `records[ix]`, the
    slices of `highlight`), every `panic!`/`unwrap`/`debug_assert!` (`normalize`, `Word::dist`, `new_pair`,
    `split`, `TrigramIndex::add`), and every unchecked access (`get_unchecked`/`set_unchecked` on the distance
    matrix, the cost vectors and characters in `distance`; `get_unchecked_mut` on the trigram counters). Since
    none of the subtractions underflows, a build with overflow checks computes the same values as one without.

    Not covered (by inspection of the source only): allocation failure, stack depth, overflow of `usize`
    additions and multiplications (possible only for inputs of astronomical length), the `RefCell`/thread-local
    borrow flags, and the `unwrap`s of the id maps in `lib.rs` on calls with an unknown store id.

    Hypotheses: `SorterOK S` (`sort_unstable_by`/`sort_by` return a sorted permutation), the environment uses
    the generated constants, `UnicodeFacts` (checked against Rust's `std`), `TablesOK` (kernel-decided for the
    seven generated languages), `StemHyp` (for the six Snowball languages: the reduce table is `FoldClosed`
    (kernel-decided), lower-casing creates no reduce-table key (`LowerKeyFree`, checked by the harness), and the
    stem of a non-empty word free of reduce-table keys has between 1 and `len` characters; nothing for
    `lang_none`). -/
theorem C01_api_safe_src (S : Sorter) (hS : SorterOK S) (E : Env) (hK : E.K = Gen.srcConsts)
    (hU : UnicodeFacts E.U Gen.srcConsts) (hT : TablesOK E.T = true) (hSt : StemHyp E) (ops : List ApiOp) :
    apiRunSafe S Gen.srcProg E (Store.new Gen.srcConsts) ops = true :=
  apiRunSafe_of_inv S hS E hK hU hT hSt ops _ (StoreInv_new S _) (fun r hr => by simp [Store.new] at hr)

/-- **C01 in every supported language.** For each of the seven language tables generated from the source
    (`none, de, en, es, fr, pt, ru`) the table hypothesis of `C01_api_safe_src` is a kernel-checked fact; what
    remains are the oracle hypotheses (`UnicodeFacts`, `StemHyp`) and `SorterOK`. -/
theorem C01_api_safe_srcLangs (S : Sorter) (hS : SorterOK S) (U : Unicode) (stem : List Nat → Nat)
    (hU : UnicodeFacts U Gen.srcConsts) (p : String × LangTables) (hp : p ∈ Gen.srcLangs)
    (hSt : StemHyp (Gen.srcProg.env U p.2 stem)) (ops : List ApiOp) :
    apiRunSafe S Gen.srcProg (Gen.srcProg.env U p.2 stem) (Store.new Gen.srcConsts) ops = true :=
  C01_api_safe_src S hS _ rfl hU (tablesOK_of_srcLangs (name := p.1) hp) hSt ops

theorem C01_search_safe_src (S : Sorter) (hS : SorterOK S) (ops : List StoreOp)
    (hops : ∀ id t rating, StoreOp.add id t rating ∈ ops → TextOK t) (q : Text) (hq : TextOK q) :
    ((Store.new Gen.srcConsts).run S Gen.srcConsts Gen.srcScoreOrder ops).searchSafe S Gen.srcConsts
      Gen.srcScoreOrder q = true :=
  C01_search_safe S hS Gen.srcConsts costsOK_src thresholdOK_src (by decide) Gen.srcScoreOrder ops hops q hq

theorem C01_match_safe_src (q : Text) (r : Record) (hq : TextOK q) (hr : TextOK r.title) :
    textMatchSafe Gen.srcConsts r.title q = true ∧ hitSafe Gen.srcConsts Gen.srcScoreOrder q r = true :=
  C01_match_safe Gen.srcConsts costsOK_src thresholdOK_src Gen.srcScoreOrder q r hq hr

/-! ### non-vacuity -/

namespace C01Example
open C13Example C03Example

/-- add "Abc def", search "d", set the limit, set the markers, search the empty query, clear, add, search -/
def exApi : List ApiOp :=
  [.add 42 [65, 98, 99, 32, 100, 101, 102] 7, .search [100], .setLimit 5, .setMarkers [60] [62], .search [],
   .clear, .add 1 [120, 121, 32, 122] 0, .search [120, 122]]

/-- the hypotheses of `C01_api_safe_src` are met by the toy Unicode/stem oracle with the English tables and
    insertion sort -/
example : apiRunSafe exSorter Gen.srcProg exEnv (Store.new Gen.srcConsts) exApi = true :=
  C01_api_safe_src exSorter exSorter_ok exEnv rfl toyU_facts tablesOK_en (toyStemHyp _ (by decide)) exApi

/-- the hypotheses of `C01_tokenize_safe` -/
example : runStepsSafe exEnv Gen.srcQuerySteps [65, 98, 99, 32, 100] = true ∧
    runStepsSafe exEnv Gen.srcRecordSteps [65, 98, 99, 32, 100] = true :=
  C01_tokenize_safe exEnv toyU_facts tablesOK_en _

/-- the hypotheses of `C01_match_safe_src`, `C01_add_safe` and `C01_search_safe_src`: the title "abc def" and the
    query "ab" of the C03 example -/
example : textMatchSafe Gen.srcConsts exRecord.title exQuery1 = true ∧
    hitSafe Gen.srcConsts Gen.srcScoreOrder exQuery1 exRecord = true :=
  C01_match_safe_src exQuery1 exRecord exQuery1_ok exTitle_ok

example : ((Store.new Gen.srcConsts).run exSorter Gen.srcConsts Gen.srcScoreOrder
    [.add 42 exTitle 0, .search exQuery1]).addSafe exTitle = true :=
  C01_add_safe exSorter Gen.srcConsts Gen.srcScoreOrder _ exTitle exTitle_ok

example : ((Store.new Gen.srcConsts).run exSorter Gen.srcConsts Gen.srcScoreOrder
    [.add 42 exTitle 0, .setLimit 3]).searchSafe exSorter Gen.srcConsts Gen.srcScoreOrder exQuery1 = true :=
  C01_search_safe_src exSorter exSorter_ok _ (by
    intro id t rating hm
    simp only [List.mem_cons, StoreOp.add.injEq, List.not_mem_nil, or_false, reduceCtorEq] at hm
    rw [hm.2.1]; exact exTitle_ok) exQuery1 exQuery1_ok

/-- the tokenizer guarantee "stem ≥ 1" (`TextOK.stems`) is needed: with a zero stem the subtraction `stem - 1`
    of `word_match` would underflow, and the model reports it -/
example : wmLeftSafe (wd 0 0 3 true) { wd 0 0 2 false with stem := 0 } = false := by decide

end C01Example

end Lucid
