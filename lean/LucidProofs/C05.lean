/-
  C05 (second half) — length of the highlighted spans:
  "No highlighted span is more than one (normalised) character longer than the stretch of query text from its
  first to its last word, and when the query is an exact prefix of a one-word title the highlight covers
  exactly the typed characters."
  Statements with short proofs; the lemmas live in `Lemmas/PairOK.lean` (`wordMatchOK`: what `word_match`
  guarantees of a returned pair, proved from the model and the distance refinement) and
  `Lemmas/TextMatchShape.lean` (`Fired.span_le`: the length bound for whatever a closure of `text_match` emits).

  Hypotheses: `TextOK` of the record titles and of the query (from the tokenizer, C15), `CostsOK K` (edit costs
  positive multiples of 0.5, at most 1.0; transposition / doubled letter 0.5, single letter 1.0) and
  `ThresholdOK K` (`DAMLEV_THRESHOLD ≤ 0.21`); both numeric hypotheses hold of the constants generated from
  the source (`costsOK_src`, `thresholdOK_src`).
-/
import LucidProofs.Lemmas.PairOK
import LucidProofs.C09

namespace Lucid

/-- **C05 (span bound, `text_match`).** Every record match returned by `text_match` highlights at most
    `stretch qt + 1` normalised characters, where `stretch qt` is the length of the query text from the start of
    its first word to the end of its last word. -/
theorem C05_span_bound (K : Consts) (hK : CostsOK K = true) (hT : ThresholdOK K = true) (rt qt : Text)
    (hrt : TextOK rt) (hqt : TextOK qt) :
    ∀ m ∈ (textMatch K rt qt).1, m.subHi - m.subLo ≤ stretch qt + 1 :=
  textMatch_span_le hrt hqt (wordMatchOK K hK hT rt qt)

theorem C05_span_bound_src (rt qt : Text) (hrt : TextOK rt) (hqt : TextOK qt) :
    ∀ m ∈ (textMatch Gen.srcConsts rt qt).1, m.subHi - m.subLo ≤ stretch qt + 1 :=
  C05_span_bound Gen.srcConsts costsOK_src thresholdOK_src rt qt hrt hqt

theorem hitsWF_of_textOK (K : Consts) (hK : CostsOK K = true) (hT : ThresholdOK K = true) (st : Store) (q : Text)
    (htitles : ∀ r ∈ st.records, TextOK r.title) (hq : TextOK q) : HitsWF K st q :=
  ⟨htitles, hq, fun r _ => wordMatchOK K hK hT r.title q⟩

/-- **C05 (span bound, hits).** In every hit of a search, no highlighted span `(start, length)` of the title is
    more than one normalised character longer than the stretch of query text from its first to its last word;
    the same holds of every record match of the hit. -/
theorem C05_span_bound_hits (K : Consts) (hK : CostsOK K = true) (hT : ThresholdOK K = true)
    (order : List ScoreType) (st : Store) (q : Text)
    (htitles : ∀ r ∈ st.records, TextOK r.title) (hq : TextOK q) (ixs : List Nat) :
    ∀ h ∈ st.hitsOf K order q ixs,
      (∀ m ∈ h.rmatches, m.subHi - m.subLo ≤ stretch q + 1) ∧ (∀ sp ∈ hitSpans h, sp.2 ≤ stretch q + 1) := by
  intro h hh
  have H := hitsWF_of_textOK K hK hT st q htitles hq
  obtain ⟨_, _, hm⟩ := hit_rmatches_ok H hh
  rw [C09_spans_are_rmatches H ixs h hh, List.forall_mem_map]
  obtain ⟨ix, r, _, hr, rfl, _⟩ := hit_of_mem_hitsOf hh
  have hb := C05_span_bound K hK hT r.title q (htitles r (List.mem_of_getElem? hr)) hq
  refine ⟨hb, fun m hmem => ?_⟩
  have := hb m hmem
  rwa [(hm m hmem).sub0] at this

theorem C05_span_bound_hits_src (st : Store) (q : Text)
    (htitles : ∀ r ∈ st.records, TextOK r.title) (hq : TextOK q) (ixs : List Nat) :
    ∀ h ∈ st.hitsOf Gen.srcConsts Gen.srcScoreOrder q ixs,
      (∀ m ∈ h.rmatches, m.subHi - m.subLo ≤ stretch q + 1) ∧ (∀ sp ∈ hitSpans h, sp.2 ≤ stretch q + 1) :=
  C05_span_bound_hits Gen.srcConsts costsOK_src thresholdOK_src Gen.srcScoreOrder st q htitles hq ixs

/-- **C05 (exact prefix, `text_match`).** One-word title `w`, one-word unfinished query `v` whose normalised
    characters are the first `k = v.len` characters of `w`: every record match returned by `text_match` (there is
    at most one) is the match of word `w` with no typos whose highlighted part is exactly its first `k`
    characters. No hypothesis on the distance threshold is needed. -/
theorem C05_exact_prefix_span (K : Consts) (hK : CostsOK K = true) (rt qt : Text) (w v : WordShape)
    (hrt : TextOK rt) (hqt : TextOK qt) (hrw : rt.words = [w]) (hqw : qt.words = [v]) (hfin : v.fin = false)
    (hpre : wchars qt v = (wchars rt w).take v.len) :
    ∀ m ∈ (textMatch K rt qt).1, m.lo = w.lo ∧ m.subLo = 0 ∧ m.subHi = v.len ∧ m.typos = 0 := by
  have hw : w ∈ rt.words := by simp [hrw]
  have hv : v ∈ qt.words := by simp [hqw]
  intro m hm
  rw [textMatch_single_of_textOK K hrt hqt hrw hqw] at hm
  cases hp : wordMatch K rt w qt v with
  | none => rw [hp] at hm; cases hm
  | some p =>
    rw [hp, List.mem_singleton] at hm
    rw [hm, wordMatch_exact_prefix K hK rt w qt v (hrt.wordIn hw) (hqt.wordIn hv) hpre hfin p hp]
    exact ⟨rfl, rfl, rfl, rfl⟩

/-- … and the match is there whenever the two gates of `word_match` (length ratio, Jaccard similarity of the
    character sets) let the pair of words through and the query word's stem is not longer than the word:
    `text_match` then returns exactly one record match, the first `k` characters of `w` with no typos. -/
theorem C05_exact_prefix_match (K : Consts) (hK : CostsOK K = true) (rt qt : Text) (w v : WordShape)
    (hrt : TextOK rt) (hqt : TextOK qt) (hrw : rt.words = [w]) (hqw : qt.words = [v]) (hfin : v.fin = false)
    (hpre : wchars qt v = (wchars rt w).take v.len) (hstem : v.stem ≤ v.len)
    (hlen : lengthCheck K w v = true) (hjac : jaccardCheck K rt w qt v = true) :
    (textMatch K rt qt).1 = [(newPair K w v v.len v.len 0).1] := by
  have hw : w ∈ rt.words := by simp [hrw]
  have hv : v ∈ qt.words := by simp [hqw]
  rw [textMatch_single_of_textOK K hrt hqt hrw hqw,
    wordMatch_exact_prefix_some K hK rt w qt v (hrt.wordIn hw) (hqt.wordIn hv) hpre hfin hstem hlen hjac]

theorem C05_exact_prefix_span_src (rt qt : Text) (w v : WordShape)
    (hrt : TextOK rt) (hqt : TextOK qt) (hrw : rt.words = [w]) (hqw : qt.words = [v]) (hfin : v.fin = false)
    (hpre : wchars qt v = (wchars rt w).take v.len) :
    ∀ m ∈ (textMatch Gen.srcConsts rt qt).1, m.lo = w.lo ∧ m.subLo = 0 ∧ m.subHi = v.len ∧ m.typos = 0 :=
  C05_exact_prefix_span Gen.srcConsts costsOK_src rt qt w v hrt hqt hrw hqw hfin hpre

/-- **C05 (exact prefix, hits).** In every hit whose title has the single word `w`, for a one-word unfinished query
    `v` that is a prefix of `w`, the only highlighted span is `(start of w, number of typed characters)`. -/
theorem C05_exact_prefix_hits (K : Consts) (hK : CostsOK K = true) (hT : ThresholdOK K = true)
    (order : List ScoreType) (st : Store) (q : Text) (v : WordShape)
    (htitles : ∀ r ∈ st.records, TextOK r.title) (hq : TextOK q) (hqw : q.words = [v]) (hfin : v.fin = false)
    (ixs : List Nat) :
    ∀ h ∈ st.hitsOf K order q ixs, ∀ w, h.title.words = [w] → wchars q v = (wchars h.title w).take v.len →
      hitSpans h = [(w.lo, v.len)] := by
  intro h hh w hw hpre
  have H := hitsWF_of_textOK K hK hT st q htitles hq
  have hne := (C09_some_span_for_wordy_query H (by simp [hqw]) ixs h hh).1
  rw [C09_spans_are_rmatches H ixs h hh]
  obtain ⟨ix, r, _, hr, rfl, _⟩ := hit_of_mem_hitsOf hh
  have hrt : TextOK r.title := htitles r (List.mem_of_getElem? hr)
  have hall : ∀ m ∈ (scoreHit K order q r).rmatches, _ :=
    C05_exact_prefix_span K hK r.title q w v hrt hq hw hqw hfin hpre
  -- the record matches are those of `word_match` on the two words: at most one, and not none
  rw [show (scoreHit K order q r).rmatches = _ from textMatch_single_of_textOK K hrt hq hw hqw] at hne hall ⊢
  generalize wordMatch K r.title w q v = o at hne hall ⊢
  cases o with
  | none => exact absurd rfl hne
  | some p =>
    obtain ⟨h1, _, h3, _⟩ := hall p.1 (List.mem_singleton.mpr rfl)
    simp [h1, h3]

theorem C05_exact_prefix_hits_src (st : Store) (q : Text) (v : WordShape)
    (htitles : ∀ r ∈ st.records, TextOK r.title) (hq : TextOK q) (hqw : q.words = [v]) (hfin : v.fin = false)
    (ixs : List Nat) :
    ∀ h ∈ st.hitsOf Gen.srcConsts Gen.srcScoreOrder q ixs, ∀ w, h.title.words = [w] →
      wchars q v = (wchars h.title w).take v.len → hitSpans h = [(w.lo, v.len)] :=
  C05_exact_prefix_hits Gen.srcConsts costsOK_src thresholdOK_src Gen.srcScoreOrder st q v htitles hq hqw hfin ixs

/-! ### non-vacuity: concrete instances of the hypotheses

`exT` is the tokenised one-word title "hello", `exQ` the tokenised unfinished query "hel"; the two-word title
"metal detector" and the query "det" of `C09Example` serve the span bound. -/
namespace C05Example

def exW : WordShape := { offset := 0, lo := 0, hi := 5, stem := 5, pos := none, fin := true }
def exV : WordShape := { offset := 0, lo := 0, hi := 3, stem := 3, pos := none, fin := false }

def exT : Text :=
  { words := [exW], source := [104,101,108,108,111], chars := [104,101,108,108,111],
    classes := [.consonant, .vowel, .consonant, .consonant, .vowel] }

def exQ : Text :=
  { words := [exV], source := [104,101,108], chars := [104,101,108], classes := [.consonant, .vowel, .consonant] }

theorem exT_ok : TextOK exT := by decide

theorem exQ_ok : TextOK exQ := by decide

example : stretch exQ = 3 := by decide
example : stretch C09Example.exT = 14 := by decide

/-- the hypotheses of `wordMatchOK` / `C05_span_bound` are met by the constants generated from the source and
    the two example texts -/
example : CostsOK Gen.srcConsts = true ∧ ThresholdOK Gen.srcConsts = true ∧ TextOK C09Example.exT ∧ TextOK C09Example.exQ :=
  ⟨costsOK_src, thresholdOK_src, C09Example.exT_ok, C09Example.exQ_ok⟩

example : WordIn exT exW ∧ WordIn exQ exV ∧ 1 ≤ exW.stem ∧ 1 ≤ exV.stem := by simp [WordIn, exT, exQ, exW, exV]

/-- the hypotheses of `C05_exact_prefix_span` -/
example : TextOK exT ∧ TextOK exQ ∧ exT.words = [exW] ∧ exQ.words = [exV] ∧ exV.fin = false ∧
    wchars exQ exV = (wchars exT exW).take exV.len :=
  ⟨exT_ok, exQ_ok, rfl, rfl, rfl, by decide⟩

/-- the gates of `C05_exact_prefix_match` let "hello" / "hel" through … -/
theorem ex_len : lengthCheck Gen.srcConsts exW exV = true := by decide
theorem ex_jac : jaccardCheck Gen.srcConsts exT exW exQ exV = true := by
  simp [jaccardCheck, jaccardSlice, jaccard, jaccardM, wchars, slice, exT, exQ, exW, exV, WordShape.len, natSet,
    natInsert, copyFrom, vecResize, JacState.new, jacMerge, Gen.srcConsts]

/-- … so typing "hel" against the title "hello" highlights exactly "[hel]lo" (a theorem about the model with the
    source's constants, not an evaluation) -/
example : (textMatch Gen.srcConsts exT exQ).1 =
    [{ offset := 0, lo := 0, hi := 5, subLo := 0, subHi := 3, typos := 0, func := false, fin := false }] :=
  C05_exact_prefix_match Gen.srcConsts costsOK_src exT exQ exW exV exT_ok exQ_ok rfl rfl rfl (by decide) (by decide)
    ex_len ex_jac

end C05Example

end Lucid
