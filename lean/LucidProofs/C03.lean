/-
  C03 — "In a store holding no more records than the limit, typing any non-empty prefix of any word of a record's
  title (the prefix ending in a letter or digit) returns that record among the hits, in every language.
  Consequently a user typing a title word letter by letter sees the record at every keystroke, from the first
  letter on."

  End-to-end assembly:
  * word level   — `wordMatch_prefix_ne_none` (`Lemmas/Gates.lean`): the two gates (length, Jaccard) and the two
                   slice loops of `word_match`, with the distance threshold inside them, accept an unfinished
                   query word whose characters are a prefix of the record word;
  * candidates   — `candOK_of_inv`, `shares_gram_of_prefix` (`Lemmas/Candidates.lean`): the record shares the gram
                   `(c0, NUL, NUL)` with the query, so the trigram index lists it;
  * control flow — `C03_single_word_found` (`C13.lean`): greedy scan, filter, bounded selection.
  The tokenizer-level corollaries take the texts from `tokenize_record` / `tokenize_query` (`C15.lean`).
-/
import LucidProofs.C13
import LucidProofs.C15
import LucidProofs.Lemmas.Candidates

namespace Lucid

theorem tokenized_ops_ok {E : Env} (hU : UnicodeFacts E.U E.K) (hT : TablesOK E.T = true) (hSt : StemHyp E)
    {ops : List StoreOp} (hops : ∀ id t rating, StoreOp.add id t rating ∈ ops → ∃ s, t = tokenizeRecord Gen.srcProg E s)
    (id : Nat) (t : Text) (rating : Nat) (hm : StoreOp.add id t rating ∈ ops) : TextOK t ∧ StemsLe t := by
  obtain ⟨s, rfl⟩ := hops id t rating hm
  exact ⟨(tokInv_tokenizeRecord E hU hT hSt s).textOK, (tokInv_tokenizeRecord E hU hT hSt s).stemsLe⟩

theorem reachable_title_tokenized (S : Sorter) (E : Env) (K : Consts) (order : List ScoreType) (ops : List StoreOp)
    (hops : ∀ id t rating, StoreOp.add id t rating ∈ ops → ∃ s, t = tokenizeRecord Gen.srcProg E s)
    (ix : Nat) (r : Record) (hr : ((Store.new K).run S K order ops).records[ix]? = some r) :
    ∃ s, r.title = tokenizeRecord Gen.srcProg E s :=
  hops _ _ _ (run_new_records_add S K order ops r (List.mem_of_getElem? hr))

theorem reachable_title_tokInv {E : Env} (hU : UnicodeFacts E.U E.K) (hT : TablesOK E.T = true) (hSt : StemHyp E)
    (S : Sorter) (K : Consts) (order : List ScoreType) {ops : List StoreOp}
    (hops : ∀ id t rating, StoreOp.add id t rating ∈ ops → ∃ s, t = tokenizeRecord Gen.srcProg E s)
    {ix : Nat} {r : Record} (hr : ((Store.new K).run S K order ops).records[ix]? = some r) :
    ∃ s, TokInv E false s r.title :=
  let ⟨s, e⟩ := reachable_title_tokenized S E K order ops hops ix r hr
  ⟨s, e ▸ tokInv_tokenizeRecord E hU hT hSt s⟩

/-- **C03.** Let a store carry the trigram index of its records (`StoreIndexInv`: true of every store reached from
    `Store::new` by any sequence of operations) and hold no more records than its limit. Let `r` be one of its
    records and `w` a word of its title. Then every query consisting of one unfinished word `v` whose characters
    are the first `v.len ≥ 1` characters of `w` returns `r` among the results — whatever the other records, the
    rating, the language tables and the sorting oracle are. Taking `v.len = 1, 2, …, w.len` in turn: the record
    is shown at every keystroke while the word is typed.
    Hypotheses on the texts: title and query are well-formed (`TextOK`, delivered by the tokenizer, C15) and the
    stem of the query word is no longer than the word. -/
theorem C03_prefix_found (S : Sorter) (hS : SorterOK S) (K : Consts)
    (hC : CostsOK K = true) (hN : GateNumsOK K = true) (hK : 1 ≤ K.sortFactor) (hP : 1 ≤ K.prepFactor)
    (order : List ScoreType) (st : Store) (hI : StoreIndexInv st) (hlim : st.records.length ≤ st.limit)
    (ix : Nat) (r : Record) (hr : st.records[ix]? = some r) (hrt : TextOK r.title)
    (q : Text) (hqt : TextOK q) (v : WordShape) (hq : q.words = [v]) (hfin : v.fin = false)
    (hstem : v.stem ≤ v.len)
    (w : WordShape) (hw : w ∈ r.title.words) (hle : v.len ≤ w.len)
    (hpre : wchars q v = (wchars r.title w).take v.len) :
    ∃ res ∈ st.search S K order q, res.id = r.id ∧ res = st.render (scoreHit K order q r) := by
  have hv : v ∈ q.words := by rw [hq]; exact List.mem_singleton.mpr rfl
  have hvin := hqt.wordIn hv
  have hwin := hrt.wordIn hw
  have hc : CandOK S K st q ix r :=
    candOK_of_inv S hS K hP st hI hlim q ix r hr
      (shares_gram_of_prefix hw hv (wchars_ne_nil hvin) (hpre ▸ List.take_prefix _ _))
  exact C03_single_word_found S hS K hK order st q ix r hc hrt hqt v hq w hw
    (wordMatch_prefix_ne_none K hC hN r.title w q v hwin hvin hfin hstem hpre)

/-- C03 for every reachable store: the store is the result of any sequence of `add`, `clear`, `set_limit`,
    `highlight_with` and `search` calls on a new store, every added title being well-formed. -/
theorem C03_prefix_found_reachable (S : Sorter) (hS : SorterOK S) (K : Consts)
    (hC : CostsOK K = true) (hN : GateNumsOK K = true) (hK : 1 ≤ K.sortFactor) (hP : 1 ≤ K.prepFactor)
    (order : List ScoreType) (ops : List StoreOp)
    (hops : ∀ id t rating, StoreOp.add id t rating ∈ ops → TextOK t)
    (hlim : ((Store.new K).run S K order ops).records.length ≤ ((Store.new K).run S K order ops).limit)
    (ix : Nat) (r : Record) (hr : ((Store.new K).run S K order ops).records[ix]? = some r)
    (q : Text) (hqt : TextOK q) (v : WordShape) (hq : q.words = [v]) (hfin : v.fin = false)
    (hstem : v.stem ≤ v.len)
    (w : WordShape) (hw : w ∈ r.title.words) (hle : v.len ≤ w.len)
    (hpre : wchars q v = (wchars r.title w).take v.len) :
    ∃ res ∈ ((Store.new K).run S K order ops).search S K order q,
      res.id = r.id ∧ res = ((Store.new K).run S K order ops).render (scoreHit K order q r) :=
  C03_prefix_found S hS K hC hN hK hP order _ (StoreIndexInv_reachable S K order ops) hlim ix r hr
    (hops _ _ _ (run_new_records_add S K order ops r (List.mem_of_getElem? hr))) q hqt v hq hfin hstem w hw hle hpre

/-- **C03 on tokenised texts.** Titles are results of `tokenize_record`, the query is the result of
    `tokenize_query` (both with the generated step lists), for any language tables meeting `TablesOK`, any Unicode
    oracle meeting `UnicodeFacts` and any bounded stemmer. Premise about the typed text `s`: its tokenisation is a
    single unfinished word whose characters are the first characters of a word of the record's (tokenised) title. -/
theorem C03_prefix_found_tokenized (S : Sorter) (hS : SorterOK S) (E : Env)
    (hU : UnicodeFacts E.U E.K) (hT : TablesOK E.T = true) (hSt : StemHyp E)
    (hC : CostsOK E.K = true) (hN : GateNumsOK E.K = true) (hK : 1 ≤ E.K.sortFactor) (hP : 1 ≤ E.K.prepFactor)
    (order : List ScoreType) (ops : List StoreOp)
    (hops : ∀ id t rating, StoreOp.add id t rating ∈ ops → ∃ s, t = tokenizeRecord Gen.srcProg E s)
    (hlim : ((Store.new E.K).run S E.K order ops).records.length ≤ ((Store.new E.K).run S E.K order ops).limit)
    (ix : Nat) (r : Record) (hr : ((Store.new E.K).run S E.K order ops).records[ix]? = some r)
    (s : List Nat) (v : WordShape) (hq : (tokenizeQuery Gen.srcProg E s).words = [v]) (hfin : v.fin = false)
    (w : WordShape) (hw : w ∈ r.title.words) (hle : v.len ≤ w.len)
    (hpre : wchars (tokenizeQuery Gen.srcProg E s) v = (wchars r.title w).take v.len) :
    ∃ res ∈ ((Store.new E.K).run S E.K order ops).search S E.K order (tokenizeQuery Gen.srcProg E s),
      res.id = r.id ∧
      res = ((Store.new E.K).run S E.K order ops).render (scoreHit E.K order (tokenizeQuery Gen.srcProg E s) r) := by
  have hqi := tokInv_tokenizeQuery E hU hT hSt s
  exact C03_prefix_found_reachable S hS E.K hC hN hK hP order ops
    (fun id t rating hm => (tokenized_ops_ok hU hT hSt hops id t rating hm).1) hlim ix r hr _ hqi.textOK v hq hfin
    (hqi.stemsLe v (by rw [hq]; exact List.mem_singleton.mpr rfl)) w hw hle hpre

theorem C03_prefix_found_src (S : Sorter) (hS : SorterOK S)
    (st : Store) (hI : StoreIndexInv st) (hlim : st.records.length ≤ st.limit)
    (ix : Nat) (r : Record) (hr : st.records[ix]? = some r) (hrt : TextOK r.title)
    (q : Text) (hqt : TextOK q) (v : WordShape) (hq : q.words = [v]) (hfin : v.fin = false)
    (hstem : v.stem ≤ v.len)
    (w : WordShape) (hw : w ∈ r.title.words) (hle : v.len ≤ w.len)
    (hpre : wchars q v = (wchars r.title w).take v.len) :
    ∃ res ∈ st.search S Gen.srcConsts Gen.srcScoreOrder q,
      res.id = r.id ∧ res = st.render (scoreHit Gen.srcConsts Gen.srcScoreOrder q r) :=
  C03_prefix_found S hS Gen.srcConsts costsOK_src gateNumsOK_src (by decide) (by decide) Gen.srcScoreOrder
    st hI hlim ix r hr hrt q hqt v hq hfin hstem w hw hle hpre

theorem C03_prefix_found_reachable_src (S : Sorter) (hS : SorterOK S) (ops : List StoreOp)
    (hops : ∀ id t rating, StoreOp.add id t rating ∈ ops → TextOK t)
    (hlim : ((Store.new Gen.srcConsts).run S Gen.srcConsts Gen.srcScoreOrder ops).records.length
              ≤ ((Store.new Gen.srcConsts).run S Gen.srcConsts Gen.srcScoreOrder ops).limit)
    (ix : Nat) (r : Record)
    (hr : ((Store.new Gen.srcConsts).run S Gen.srcConsts Gen.srcScoreOrder ops).records[ix]? = some r)
    (q : Text) (hqt : TextOK q) (v : WordShape) (hq : q.words = [v]) (hfin : v.fin = false)
    (hstem : v.stem ≤ v.len)
    (w : WordShape) (hw : w ∈ r.title.words) (hle : v.len ≤ w.len)
    (hpre : wchars q v = (wchars r.title w).take v.len) :
    ∃ res ∈ ((Store.new Gen.srcConsts).run S Gen.srcConsts Gen.srcScoreOrder ops).search S Gen.srcConsts
        Gen.srcScoreOrder q,
      res.id = r.id ∧
      res = ((Store.new Gen.srcConsts).run S Gen.srcConsts Gen.srcScoreOrder ops).render
              (scoreHit Gen.srcConsts Gen.srcScoreOrder q r) :=
  C03_prefix_found_reachable S hS Gen.srcConsts costsOK_src gateNumsOK_src (by decide) (by decide)
    Gen.srcScoreOrder ops hops hlim ix r hr q hqt v hq hfin hstem w hw hle hpre

/-- C03 at the generated constants, step lists and score order, in every language: `T` is any language table
    meeting `TablesOK` (decided for the seven generated languages in `Lemmas/Facts.lean`). -/
theorem C03_prefix_found_tokenized_src (S : Sorter) (hS : SorterOK S)
    (U : Unicode) (T : LangTables) (stem : List Nat → Nat)
    (hU : UnicodeFacts U Gen.srcConsts) (hT : TablesOK T = true) (hSt : StemHyp (Gen.srcProg.env U T stem))
    (ops : List StoreOp)
    (hops : ∀ id t rating, StoreOp.add id t rating ∈ ops →
      ∃ s, t = tokenizeRecord Gen.srcProg (Gen.srcProg.env U T stem) s)
    (hlim : ((Store.new Gen.srcConsts).run S Gen.srcConsts Gen.srcScoreOrder ops).records.length
              ≤ ((Store.new Gen.srcConsts).run S Gen.srcConsts Gen.srcScoreOrder ops).limit)
    (ix : Nat) (r : Record)
    (hr : ((Store.new Gen.srcConsts).run S Gen.srcConsts Gen.srcScoreOrder ops).records[ix]? = some r)
    (s : List Nat) (v : WordShape)
    (hq : (tokenizeQuery Gen.srcProg (Gen.srcProg.env U T stem) s).words = [v]) (hfin : v.fin = false)
    (w : WordShape) (hw : w ∈ r.title.words) (hle : v.len ≤ w.len)
    (hpre : wchars (tokenizeQuery Gen.srcProg (Gen.srcProg.env U T stem) s) v = (wchars r.title w).take v.len) :
    ∃ res ∈ ((Store.new Gen.srcConsts).run S Gen.srcConsts Gen.srcScoreOrder ops).search S Gen.srcConsts
        Gen.srcScoreOrder (tokenizeQuery Gen.srcProg (Gen.srcProg.env U T stem) s),
      res.id = r.id ∧
      res = ((Store.new Gen.srcConsts).run S Gen.srcConsts Gen.srcScoreOrder ops).render
              (scoreHit Gen.srcConsts Gen.srcScoreOrder (tokenizeQuery Gen.srcProg (Gen.srcProg.env U T stem) s) r) :=
  C03_prefix_found_tokenized S hS (Gen.srcProg.env U T stem) hU hT hSt costsOK_src gateNumsOK_src
    (show 1 ≤ Gen.srcConsts.sortFactor by decide) (show 1 ≤ Gen.srcConsts.prepFactor by decide) Gen.srcScoreOrder ops hops hlim ix r hr s v hq hfin w hw hle hpre

namespace C03Example
open C13Example

/-! ### non-vacuity -/

theorem exStore_inv : StoreIndexInv exStore := (StoreIndexInv.new _).add 42 exTitle 0

/-- the hypotheses of `C03_prefix_found_src` are met by the prefix "ab" against the title "abc def" -/
example : ∃ res ∈ exStore.search exSorter Gen.srcConsts Gen.srcScoreOrder exQuery1, res.id = 42 ∧
    res = exStore.render (scoreHit Gen.srcConsts Gen.srcScoreOrder exQuery1 exRecord) :=
  C03_prefix_found_src exSorter exSorter_ok exStore exStore_inv (by decide) 0 exRecord (by decide) exTitle_ok
    exQuery1 exQuery1_ok (wd 0 0 2 false) rfl rfl (by decide) (wd 0 0 3 true) (by decide) (by decide) (by decide)

def exEnv : Env := Gen.srcProg.env toyU Gen.lang_en toyStem

/-- add "Abc def", search once (filling the cache), lower the limit to 5 -/
def exOps : List StoreOp :=
  [.add 42 (tokenizeRecord Gen.srcProg exEnv [65, 98, 99, 32, 100, 101, 102]) 7,
   .search (tokenizeQuery Gen.srcProg exEnv []), .setLimit 5]

theorem exOps_ok : ∀ id t rating, StoreOp.add id t rating ∈ exOps → ∃ s, t = tokenizeRecord Gen.srcProg exEnv s := by
  intro id t rating hm
  simp only [exOps, List.mem_cons, StoreOp.add.injEq, List.not_mem_nil, or_false, reduceCtorEq] at hm
  exact ⟨_, hm.2.1⟩

theorem exTitle_tok : tokenizeRecord Gen.srcProg exEnv [65, 98, 99, 32, 100, 101, 102] =
    { words := [{ offset := 0, lo := 0, hi := 3, stem := 2, pos := none, fin := true },
                { offset := 1, lo := 4, hi := 7, stem := 2, pos := none, fin := true }],
      source := [65, 98, 99, 32, 100, 101, 102], chars := [97, 98, 99, 32, 100, 101, 102],
      classes := [.vowel, .consonant, .consonant, .notAlpha, .consonant, .vowel, .consonant] } := by decide +kernel

/-- the hypotheses of `C03_prefix_found_tokenized_src` are met by typing "d", "de", "def" against "Abc def" -/
example (s : List Nat) (hs : s = [100] ∨ s = [100, 101] ∨ s = [100, 101, 102]) :
    ∃ res ∈ ((Store.new Gen.srcConsts).run exSorter Gen.srcConsts Gen.srcScoreOrder exOps).search exSorter
        Gen.srcConsts Gen.srcScoreOrder (tokenizeQuery Gen.srcProg exEnv s), res.id = 42 := by
  -- one evaluation for the three texts: the kernel then builds the function-word map of `lang_en` once
  have htok : ∀ s ∈ [[100], [100, 101], [100, 101, 102]],
      tokenizeQuery Gen.srcProg (Gen.srcProg.env toyU Gen.lang_en toyStem) s =
      { words := [{ offset := 0, lo := 0, hi := s.length, stem := toyStem s, pos := none, fin := false }],
        source := s, chars := s, classes := s.map (classOf exEnv) } := by decide +kernel
  have key := fun s hm (hle : s.length ≤ 3) (hpre : s = [100, 101, 102].take s.length) =>
    (C03_prefix_found_tokenized_src exSorter exSorter_ok toyU Gen.lang_en toyStem toyU_facts tablesOK_en
      (toyStemHyp _ (by decide)) exOps exOps_ok (by decide : (1 : Nat) ≤ 5) 0
      { ix := 0, id := 42, title := tokenizeRecord Gen.srcProg exEnv [65, 98, 99, 32, 100, 101, 102], rating := 7 }
      rfl s _ (congrArg Text.words (htok s hm)) rfl
      { offset := 1, lo := 4, hi := 7, stem := 2, pos := none, fin := true } (by rw [exTitle_tok]; decide) hle
      (by rw [htok s hm, exTitle_tok]; show slice s 0 s.length = _
          rw [slice_full]; exact hpre)).imp fun _ h => And.intro h.1 h.2.1
  rcases hs with rfl | rfl | rfl
  · exact key [100] (by decide) (by decide) rfl
  · exact key [100, 101] (by decide) (by decide) rfl
  · exact key [100, 101, 102] (by decide) (by decide) rfl

end C03Example

end Lucid
