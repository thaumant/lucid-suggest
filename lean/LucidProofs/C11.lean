/-
  C11 — "Replacing letters of the query by their other-case form, writing its accented letters in
  decomposed instead of precomposed form, stripping the accents the store's language folds, or prefixing
  separators, never changes the hit list or the highlighted titles. Storing a title in decomposed form gives
  the same hits and the same returned titles as storing it precomposed."

  WHAT IS PROVED HERE:
  * `C11_search_congr*`: the whole search pipeline (trigram candidates, word/text matching, scoring, filter,
    bounded selection, highlighting, cache update) depends on the tokenised query only through its words —
    their characters, classes, stem, part of speech, finished flag and the gaps between them — and not on
    absolute positions or on `source` (`QEquiv`).
  * `C11_separator_prefix*`: the *separator prefix* variant of the property, through the generated query
    tokenizer.
  WHAT IS NOT PROVED HERE: the re-casing, decomposed-vs-precomposed and accent-folding variants of the query,
  and the decomposed-vs-precomposed *title* statement, are NOT covered by any theorem in this file: they are in
  C11b.lean (one variant at a time), C11c.lean (combined) and C11d.lean (against Unicode's canonical decomposition).
  SORTER CAVEAT: equality of the *selected* results needs the sorting oracle to treat hits as opaque values
  (`SorterNatural`): the hits for the two queries differ in the `lo`/`hi` stored in their query matches, and an
  arbitrary Lean function of the `Sorter.sort` type could break ties between equal-score hits by looking at
  them. `C11_search_congr_topk` is the statement that holds for every sorted-permutation sorter.
  Statements only; the lemmas are in Lemmas/QueryCongr.lean and, for the separator prefix, Lemmas/NormVariants.lean.
-/
import LucidProofs.Lemmas.NormVariants

namespace Lucid

/-- Two tokenised queries that are shifted copies of each other (`QEquiv`: same words up to a constant
    shift of their positions, same characters and classes under the words and between them; `source` and
    everything outside the words may differ) give the same search results — ids and highlighted titles, in
    the same order — on every store, for every `K` and score order. The sorting routine is assumed to
    treat hits as opaque values (`SorterNatural`, true of every real sorting algorithm). -/
theorem C11_search_congr {S : Sorter} (hS : SorterNatural S) (K : Consts) (order : List ScoreType) (st : Store)
    {d : Nat} {q q' : Text} (h : QEquiv d q q') :
    st.search S K order q' = st.search S K order q := by
  simp only [Store.search, searchM_congr hS K order st h]

/-- Same, including the store after the call (the `top_ixs` cache update does not depend on the query
    beyond its being empty). -/
theorem C11_searchM_congr {S : Sorter} (hS : SorterNatural S) (K : Consts) (order : List ScoreType) (st : Store)
    {d : Nat} {q q' : Text} (h : QEquiv d q q') :
    st.searchM S K order q' = st.searchM S K order q :=
  searchM_congr hS K order st h

/-- Without any naturality assumption, for every sorter returning sorted permutations: the candidate
    positions are equal, the scored and filtered hits are equal up to the positions recorded in the query
    matches, and the results for the shifted query are the rendering of a top-`limit` selection of the very
    hit list of the original query (so the two result lists can differ only in how the sorter breaks ties
    among hits with equal score vectors). -/
theorem C11_search_congr_topk {S : Sorter} (hS : SorterOK S) (K : Consts) (hK : 1 ≤ K.sortFactor)
    (order : List ScoreType) (st : Store) {d : Nat} {q q' : Text} (h : QEquiv d q q') :
    (st.candidatesM S K q').1 = (st.candidatesM S K q).1 ∧
    (∀ ixs, st.hitsOf K order q' ixs = (st.hitsOf K order q ixs).map (Hit.shiftQ d)) ∧
    ∃ top, TopK hitLe st.limit (st.hitsOf K order q (st.candidatesM S K q).1) top ∧
      st.search S K order q' = top.map st.render :=
  ⟨by rw [candidatesM_congr h], hitsOf_congr K order st h, search_congr_topk hS K order st h⟩

/-- instantiation at the constants generated from the source -/
theorem C11_search_congr_src {S : Sorter} (hS : SorterNatural S) (st : Store) {d : Nat} {q q' : Text}
    (h : QEquiv d q q') :
    st.search S Gen.srcConsts Gen.srcScoreOrder q' = st.search S Gen.srcConsts Gen.srcScoreOrder q :=
  C11_search_congr hS _ _ st h

/-- non-vacuity: insertion sort meets both sorter hypotheses -/
example : SorterNatural insSorter ∧ SorterOK insSorter := ⟨insSorter_natural, insSorter_ok⟩
example : 1 ≤ Gen.srcConsts.sortFactor := by decide

/-- non-vacuity: the query `ab cd` (words at 0..2 and 3..5) and the same words found two positions further
    in a text with other `source` and other content before the first word -/
example : QEquiv 2
    { words := [⟨0, 0, 2, 2, none, true⟩, ⟨1, 3, 5, 1, some .noun, false⟩], source := [97, 98, 32, 99, 100],
      chars := [97, 98, 32, 99, 100], classes := [.vowel, .consonant, .whitespace, .consonant, .consonant] }
    { words := [⟨0, 2, 4, 2, none, true⟩, ⟨1, 5, 7, 1, some .noun, false⟩], source := [],
      chars := [45, 45, 97, 98, 32, 99, 100],
      classes := [.punctuation, .any, .vowel, .consonant, .whitespace, .consonant, .consonant] } :=
  QEquiv.of_prefix [45, 45] [.punctuation, .any] rfl rfl rfl rfl

/-! ### the separator-prefix variant through the generated query tokenizer -/

/-- Tokenising a query with a prefix `p` of separators in front gives the tokenisation of the query without
    the prefix, shifted right by `p.length` (`QEquiv`). Hypotheses on the prefix: every character of `p` is a
    separator of the split step (`isSepChar`: whitespace, control or in the punctuation set), none is
    upper-case (the proof does not use this: `TextOwn::lower` lower-cases every character, so no step depends on
    it), and none occurs in a key of the language's compose or reduce table (so that normalisation passes `p` through one character at a time and
    no two-character pattern straddles the border between `p` and `s`). Holds for every language table,
    character oracle and stemmer. -/
theorem C11_separator_prefix_equiv (E : Env) (p s : List Nat)
    (hsep : ∀ c ∈ p, isSepChar E.U E.K c = true)
    (hup : ∀ c ∈ p, E.U.isUppercase c = false)
    (hcomp : NoKeyChar E.T.compose p) (hred : NoKeyChar E.T.reduce p) :
    QEquiv p.length (tokenizeQuery Gen.srcProg E s) (tokenizeQuery Gen.srcProg E (p ++ s)) := by
  rw [tokenizeQuery_eq, tokenizeQuery_eq, normChars_prefix E p s hcomp hred]
  exact tokText_sepPrefix E false _ _ p _ hsep

/-- Prefixing separators to the query string never changes the search results (ids and highlighted titles)
    nor the store after the call: every store, limit, markers, `K`, score order, language and stemmer. -/
theorem C11_separator_prefix {S : Sorter} (hS : SorterNatural S) (E : Env) (K : Consts) (order : List ScoreType)
    (st : Store) (p s : List Nat)
    (hsep : ∀ c ∈ p, isSepChar E.U E.K c = true)
    (hup : ∀ c ∈ p, E.U.isUppercase c = false)
    (hcomp : NoKeyChar E.T.compose p) (hred : NoKeyChar E.T.reduce p) :
    st.searchM S K order (tokenizeQuery Gen.srcProg E (p ++ s)) =
      st.searchM S K order (tokenizeQuery Gen.srcProg E s) :=
  searchM_congr hS K order st (C11_separator_prefix_equiv E p s hsep hup hcomp hred)

/-- the same for the results only, at the constants and score order generated from the source -/
theorem C11_separator_prefix_src {S : Sorter} (hS : SorterNatural S) (E : Env) (st : Store) (p s : List Nat)
    (hsep : ∀ c ∈ p, isSepChar E.U E.K c = true)
    (hup : ∀ c ∈ p, E.U.isUppercase c = false)
    (hcomp : NoKeyChar E.T.compose p) (hred : NoKeyChar E.T.reduce p) :
    st.search S Gen.srcConsts Gen.srcScoreOrder (tokenizeQuery Gen.srcProg E (p ++ s)) =
      st.search S Gen.srcConsts Gen.srcScoreOrder (tokenizeQuery Gen.srcProg E s) := by
  simp only [Store.search, C11_separator_prefix hS E _ _ st p s hsep hup hcomp hred]

/-- non-vacuity: a small character oracle, the generated German tables and constants, prefix `" - "` -/
private def exU : Unicode :=
  { isAlphabetic := fun c => (65 ≤ c && c ≤ 90) || (97 ≤ c && c ≤ 122) || 192 ≤ c,
    isNumeric := fun c => 48 ≤ c && c ≤ 57,
    isWhitespace := fun c => c == 32 || c == 9,
    isControl := fun c => c < 32,
    isUppercase := fun c => 65 ≤ c && c ≤ 90,
    lower1 := fun c => if 65 ≤ c && c ≤ 90 then c + 32 else c }
private def exE : Env := { U := exU, K := Gen.srcConsts, T := Gen.lang_de, stem := List.length }

example : (∀ c ∈ [32, 45, 32], isSepChar exE.U exE.K c = true) ∧ (∀ c ∈ [32, 45, 32], exE.U.isUppercase c = false) ∧
    NoKeyChar exE.T.compose [32, 45, 32] ∧ NoKeyChar exE.T.reduce [32, 45, 32] := by
  refine ⟨by decide, by decide, ?_, ?_⟩ <;> (unfold NoKeyChar; decide)

end Lucid
