/-
  C19 (distance-matrix and cost-vector part) — every unchecked read or write of `DistMatrix`
  (`get_unchecked` / `set_unchecked` in `init`, `prepare` and `DamerauLevenshtein::distance`) and every unchecked
  read of the per-character cost vectors and of the characters uses an in-range index: row and column are each
  below the *current* matrix dimension (not merely inside the flat buffer), for every input and after any
  sequence of earlier calls that grew or reused the buffers.

  `LucidModel.DamlevChecked` runs the same loops with every such access bounds-checked (`none` on failure).
  The theorems say the checked run never fails and equals the unchecked run. The Jaccard merge is
  `C19_jaccard_in_range` (C17.lean), the trigram counters `IndexInv.prepareSafe` (`Lemmas/Index.lean`).
  Lemmas: `LucidProofs/Lemmas/DamlevChecked.lean` (checked = unchecked), `LucidProofs/Lemmas/DamlevRefine.lean`
  (shape invariant `MInv`, flat layout).
-/
import LucidProofs.Lemmas.DamlevChecked
import LucidModel.Gen.Consts

namespace Lucid
open DL

/-- `DistMatrix::init` stays inside the matrix for every matrix value whatsoever (any size, any buffer). -/
theorem C19_init_in_range (m : Mat) : m.initC = some m.init := (initC_spec m).1

/-- The growth branch of `prepare` (resize keeps stale data, then `init`) stays inside the grown matrix. -/
theorem C19_grow_in_range (m : Mat) (need : Nat) : m.growC need = some (m.grow need) := (growC_spec m need).1

/-- `DistMatrix::prepare` stays inside the matrix for every matrix value and every two cost vectors, and
    leaves a matrix whose dimension is at least the longer vector plus two. -/
theorem C19_prepare_in_range (m : Mat) (c1 c2 : List Nat) :
    m.prepareC c1 c2 = some (m.prepare c1 c2) ∧ max c1.length c2.length + 2 ≤ (m.prepare c1 c2).size := by
  have := prepareC_spec m c1 c2
  exact ⟨this.1, by omega⟩

/-- One call of `distance`: none of the checked accesses (matrix row < size and column < size separately,
    cost vectors, characters) fails, for **every** matrix state `m` (nothing at all is assumed about it, so in
    particular after any earlier calls) and all words carrying one cost per character; the checked run returns
    exactly what the unchecked loops return. -/
theorem C19_distance_in_range (K : Consts) (m : Mat) (a b : CWord) (ha : Aligned a) (hb : Aligned b) :
    distanceC K m a b = some (distanceM K m a b) :=
  (distanceC_spec K m a b ha hb).1

example : distanceC Gen.srcConsts (Mat.new 3) ⟨[97, 98, 99, 97], [5, 10, 10, 5]⟩ ⟨[97, 99, 98, 97, 97], [5, 10, 10, 5, 5]⟩ =
    some (distanceM Gen.srcConsts (Mat.new 3) ⟨[97, 98, 99, 97], [5, 10, 10, 5]⟩ ⟨[97, 99, 98, 97, 97], [5, 10, 10, 5, 5]⟩) :=
  C19_distance_in_range _ _ _ _ (by simp [Aligned]) (by simp [Aligned])

/-- The hypothesis `Aligned` is necessary: with a cost vector shorter than the word the source's
    `costs1.get_unchecked(i1)` would read out of range, and the checked run reports it. -/
example : distanceC Gen.srcConsts (Mat.new 22) ⟨[97, 98], [5]⟩ ⟨[97], [5]⟩ = none := by decide +kernel

/-- Any sequence of calls starting from the matrix the library creates (`DistMatrix::new(DEFAULT_CAPACITY + 2)`),
    including calls that grow it: no checked access ever fails and the results equal the unchecked ones. -/
theorem C19_sequence_in_range (K : Consts) (calls : List (CWord × CWord))
    (hc : ∀ p ∈ calls, Aligned p.1 ∧ Aligned p.2) :
    runCallsC K (Mat.new (K.matCap + 2)) calls = some (runCalls K (Mat.new (K.matCap + 2)) calls) :=
  runCallsC_eq K calls hc _

/-- After any number of calls of such a sequence the buffer is exactly `size × size` and the sentinels are intact
    (`MInv`); hence (next theorem) row < size and column < size also imply that the flat index `row·size + column`
    lies inside the buffer. -/
theorem C19_sequence_shape (K : Consts) (calls : List (CWord × CWord)) (hc : CallsOK calls) (n : Nat) :
    MInv (runCalls K (Mat.new (K.matCap + 2)) (calls.take n)).2 :=
  (runCalls_spec K (calls.take n) (fun p hp => hc p (List.mem_of_mem_take hp)) _ (MInv_new _).1).2

/-- Row and column below the dimension address a slot of the flat buffer, and two different cells never share
    a slot. -/
theorem C19_flat_index (m : Mat) (hm : MInv m) (i j i' j' : Nat) (hi : i < m.size) (hj : j < m.size)
    (hj' : j' < m.size) :
    i * m.size + j < m.raw.size ∧ (i * m.size + j = i' * m.size + j' ↔ i = i' ∧ j = j') :=
  ⟨hm.wf ▸ flat_lt m.size i j hi hj, flat_inj m.size i j i' j' hj hj'⟩

example : MInv (Mat.new (Gen.srcConsts.matCap + 2)) := (MInv_new _).1

end Lucid
