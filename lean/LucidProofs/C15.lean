/-
  C15 — well-formedness of tokenizer output.

  "For any text and language the tokeniser's original, normalised and character-class arrays have equal
   length, and its words are consecutively numbered, non-empty, ordered, non-overlapping, in bounds, begin and
   end with a letter or digit, contain no whitespace, control, punctuation-class or upper-case character, and
   have a stem length between 1 and their own length. Every letter or digit of the normalised text lies in
   exactly one word, and the original array with padding removed is the input with the language's accent
   sequences composed. Record words are all finished; in a query only the last word can be unfinished, and it
   is exactly when nothing follows it."

  Recorded deviation (finding D4, not hidden): 549 Unicode scalars are `is_uppercase` but have no lower-case
  mapping (e.g. U+1F130), so "no upper-case character" is stated as: every word character `c` with
  `isUppercase c` satisfies `lower1 c = c` (it is one that `to_lowercase` leaves alone).
  "Padding removed" is stated as "NULs removed" on both sides: the padding character is NUL, and NULs already
  in the input cannot be told from padding.

  Helper lemmas: `Lemmas/Normalize.lean`, `Lemmas/Tokenize.lean`.
-/
import LucidProofs.Lemmas.Tokenize
import LucidProofs.Lemmas.BoundedOracle
import LucidProofs.Lemmas.MatchFacts
import LucidProofs.Lemmas.TableClosure

namespace Lucid

/-- The conjunction of the clauses of property C15 for a tokenizer result `t` on `input`
    (`query = true`: `tokenize_query`, `query = false`: `tokenize_record`).

    * `len_source`, `len_classes`: the three arrays have equal length;
    * `offsets`: the words are numbered `0, 1, 2, …`;
    * `bounds`: every word is non-empty and inside `chars`;
    * `ordered`: an earlier word ends at or before the start of any later word (ordered, non-overlapping);
    * `first_alnum`, `last_alnum`: words begin and end with a letter or digit;
    * `no_sep`: no whitespace, control or punctuation-set character inside a word;
    * `no_upper`: an upper-case character inside a word is one that `to_lowercase` leaves alone
      (finding D4: such characters exist, so the unconditional clause is false for Rust's `std`);
    * `stem`: `1 ≤ stem ≤ len`;
    * `cover`: every letter or digit of `chars` lies in exactly one word;
    * `source`: `source` without NULs is the composed input without NULs;
    * `fin_record`: record words are all finished;
    * `fin_query_init`, `fin_query_last`: in a query only the last word can be unfinished, and it is
      unfinished exactly when it ends at the end of `chars`. -/
structure TokInv (E : Env) (query : Bool) (input : List Nat) (t : Text) : Prop where
  len_source  : t.source.length = t.chars.length
  len_classes : t.classes.length = t.chars.length
  offsets     : t.words.map (·.offset) = List.range t.words.length
  bounds      : ∀ w ∈ t.words, w.lo < w.hi ∧ w.hi ≤ t.chars.length
  ordered     : t.words.Pairwise (fun a b => a.hi ≤ b.lo)
  first_alnum : ∀ w ∈ t.words, ∃ c, t.chars[w.lo]? = some c ∧ E.U.isAlnum c = true
  last_alnum  : ∀ w ∈ t.words, ∃ c, t.chars[w.hi - 1]? = some c ∧ E.U.isAlnum c = true
  no_sep      : ∀ w ∈ t.words, ∀ c ∈ slice t.chars w.lo w.hi, isSepChar E.U E.K c = false
  no_upper    : ∀ w ∈ t.words, ∀ c ∈ slice t.chars w.lo w.hi, E.U.isUppercase c = true → E.U.lower1 c = c
  stem        : ∀ w ∈ t.words, 1 ≤ w.stem ∧ w.stem ≤ w.len
  cover       : ∀ p c, t.chars[p]? = some c → E.U.isAlnum c = true →
                  ∃ w ∈ t.words, (w.lo ≤ p ∧ p < w.hi) ∧ ∀ w' ∈ t.words, w'.lo ≤ p → p < w'.hi → w' = w
  source      : t.source.filter (· ≠ 0) = (compose E.T input).filter (· ≠ 0)
  fin_record  : query = false → ∀ w ∈ t.words, w.fin = true
  fin_query_init : query = true → ∀ i w, t.words[i]? = some w → i + 1 < t.words.length → w.fin = true
  fin_query_last : query = true → ∀ w, t.words.getLast? = some w → (w.fin = false ↔ w.hi = t.chars.length)

/-- the stem hypothesis: `lang_none` needs nothing; a language with a Snowball stemmer needs
    * `FoldClosed` reduce table (decided by the kernel for the generated tables): keys are single characters and
      no replacement character is a key, so after `normalize` no character of the text is a key;
    * `LowerKeyFree` (oracle/table fact checked by the harness): lower-casing does not create a key;
    * `StemBounded`: the Snowball oracle returns between 1 and `|w|` characters **for words free of reduce-table
      keys** — the only words that can reach the stemmer.  (The unrestricted bound is false for the real German
      stemmer, `stem "ß" = 2`; see `deStem` below.) -/
def StemHyp (E : Env) : Prop :=
  E.T.stemmer = true → (FoldClosed E.T.reduce = true ∧ LowerKeyFree E ∧ StemBounded E)

theorem tokInv_of_spanInv (E : Env) (query : Bool) (input : List Nat) (t : Text)
    (h1 : t.source.length = t.chars.length) (h2 : t.classes.length = t.chars.length)
    (h3 : t.words.map (·.offset) = List.range t.words.length)
    (h4 : SpanInv E.U.isAlnum (isSepChar E.U E.K) query t.chars (t.words.map WordShape.span))
    (h5 : ∀ c ∈ t.chars, E.U.isUppercase c = true → E.U.lower1 c = c)
    (h6 : ∀ w ∈ t.words, 1 ≤ w.stem ∧ w.stem ≤ w.len)
    (h7 : t.source.filter (· ≠ 0) = (compose E.T input).filter (· ≠ 0)) :
    TokInv E query input t := by
  have sp : ∀ w ∈ t.words, w.span ∈ t.words.map WordShape.span := fun w hw => List.mem_map_of_mem hw
  have hord : t.words.Pairwise (fun a b => a.hi ≤ b.lo) := List.pairwise_map.1 h4.ordered
  have hb : ∀ w ∈ t.words, w.lo < w.hi ∧ w.hi ≤ t.chars.length := fun w hw => h4.bounds _ (sp w hw)
  refine ⟨h1, h2, h3, hb, hord, fun w hw => h4.first _ (sp w hw), fun w hw => h4.last _ (sp w hw),
    ?_, ?_, h6, ?_, h7, ?_, ?_, ?_⟩
  · intro w hw c hc
    obtain ⟨k, hk1, hk2, hk3⟩ := mem_slice _ _ _ _ hc
    obtain ⟨c', hc', hs⟩ := h4.no_sep _ (sp w hw) k hk1 hk2
    rw [hk3] at hc'; cases hc'; exact hs
  · exact fun _ _ c hc => h5 c (mem_of_mem_slice hc)
  · intro p c hp hc
    obtain ⟨x, hx, hx1, hx2⟩ := h4.cover p c hp hc
    obtain ⟨w, hw, rfl⟩ := List.mem_map.1 hx
    have hx1 : w.lo ≤ p := hx1
    have hx2 : p < w.hi := hx2
    exact ⟨w, hw, ⟨hx1, hx2⟩, fun w' hw' _ _ => pairwise_unique hord hw' hw (by omega) (by omega)⟩
  · intro hq w hw
    exact (h4.fin _ (sp w hw)).1 hq
  · intro hq i w hi hlt
    obtain ⟨hil, rfl⟩ := List.getElem?_eq_some_iff.1 hi
    have hp := List.pairwise_iff_getElem.1 hord i (i + 1) hil hlt (by omega)
    have b2 := hb _ (List.getElem_mem hlt)
    cases hf : t.words[i].fin with
    | true => rfl
    | false =>
      -- an unfinished word ends at the end of the text, yet another word follows
      have : t.words[i].hi = t.chars.length := ((h4.fin _ (sp _ (List.getElem_mem hil))).2 hq).1 hf
      omega
  · exact fun hq w hw => (h4.fin _ (sp w (List.mem_of_getLast? hw))).2 hq

theorem tokInv_tokText (E : Env) (hU : UnicodeFacts E.U E.K) (hS : StemHyp E) (query : Bool)
    (input src cs : List Nat) (h1 : src.length = cs.length)
    (h7 : src.filter (· ≠ 0) = (compose E.T input).filter (· ≠ 0))
    (hk : E.T.stemmer = true → KeyFree E.T.reduce cs) :
    TokInv E query input (tokText E (!query) src cs) := by
  have h4 := spanInv_map _ _ E.U.lower1 hU.lower_alnum hU.lower_sep query cs _ (wordSpans_spanInv E hU query cs)
  apply tokInv_of_spanInv
  · simpa [tokText] using h1
  · simp [tokText]
  · exact tokText_offsets ..
  · rw [tokText_spans]; exact h4
  · exact fun c hc _ => tokText_chars_lower_fixed E hU _ _ _ c hc
  · intro w hw
    obtain ⟨⟨x, i⟩, hx, rfl⟩ := List.mem_map.1 hw
    have b := h4.bounds x (List.fst_mem_of_mem_zipIdx hx)
    simp only [Span.toWord, WordShape.len]
    split
    · rename_i hs
      have hl := slice_length _ x.lo x.hi b.2
      have := (hS hs).2.2 (slice (cs.map E.U.lower1) x.lo x.hi) (by intro h; rw [h] at hl; simp at hl; omega)
        (fun c hc => keyFree_map_lower E (hS hs).2.1 cs (hk hs) c (mem_of_mem_slice hc))
      omega
    · omega
  · exact h7

theorem tokInv_tokenizeQuery (E : Env) (hU : UnicodeFacts E.U E.K) (hT : TablesOK E.T = true) (hS : StemHyp E)
    (s : List Nat) : TokInv E true s (tokenizeQuery Gen.srcProg E s) := by
  rw [tokenizeQuery_eq]
  exact tokInv_tokText E hU hS true s _ _ (normSource_length E (noShrink_of_tablesOK hT) s) (normSource_filter E s)
    (fun hs => normChars_keyFree E (hS hs).1 s)

theorem tokInv_tokenizeRecord (E : Env) (hU : UnicodeFacts E.U E.K) (hT : TablesOK E.T = true) (hS : StemHyp E)
    (s : List Nat) : TokInv E false s (tokenizeRecord Gen.srcProg E s) := by
  rw [tokenizeRecord_eq]
  exact tokInv_tokText E hU hS false s _ _ (normSource_length E (noShrink_of_tablesOK hT) s) (normSource_filter E s)
    (fun hs => normChars_keyFree E (hS hs).1 s)

/-- **C15 (queries), any constants.** For every input text, language tables and oracles meeting the named
    hypotheses, the result of the *generated* query pipeline (`normalize, fin(false), split, strip, lower,
    set_pos, set_char_classes, set_stem`) satisfies every clause of `TokInv`. -/
theorem C15_query_anyK (E : Env) (hU : UnicodeFacts E.U E.K) (hT : TablesOK E.T = true) (hS : StemHyp E)
    (s : List Nat) : TokInv E true s (runSteps E Gen.srcQuerySteps s) :=
  tokInv_tokenizeQuery E hU hT hS s

/-- **C15 (records), any constants.** Same for the generated record pipeline (no `fin` step: all words are
    finished). -/
theorem C15_record_anyK (E : Env) (hU : UnicodeFacts E.U E.K) (hT : TablesOK E.T = true) (hS : StemHyp E)
    (s : List Nat) : TokInv E false s (runSteps E Gen.srcRecordSteps s) :=
  tokInv_tokenizeRecord E hU hT hS s

/-- **C15 for `tokenize_query`.** What a user learns: whatever text is typed and whichever language is
    chosen, the tokenized query has source, normalised and class arrays of one length; its words are numbered
    0,1,2,…, non-empty, in bounds, ordered and disjoint; each begins and ends with a letter or digit and
    contains no whitespace, control or punctuation character; the only upper-case characters left are those
    `to_lowercase` does not change (finding D4); `1 ≤ stem ≤ len`; every letter/digit is in exactly one word;
    the source without NUL padding is the composed input; only the last word can be unfinished, and it is
    exactly when it reaches the end of the text.
    Hypotheses: the constants are the generated ones (`hK`), the Unicode oracle satisfies `UnicodeFacts` with
    the generated punctuation set (checked against Rust's `std` by the harness), the language tables satisfy
    `TablesOK` (decided by the kernel for the seven generated languages), and, if the language has a
    stemmer, `StemHyp`: the reduce table is `FoldClosed` (kernel-decided), lower-casing creates no reduce-table
    key (`LowerKeyFree`, checked by the harness against `std` and the tables), and the Snowball oracle is bounded
    on words free of reduce-table keys (`StemBounded`; satisfiable by a stemmer with `stem "ß" = 2`, see
    `C15_query_eszett`). -/
theorem C15_query (E : Env) (hK : E.K = Gen.srcConsts) (hU : UnicodeFacts E.U Gen.srcConsts)
    (hT : TablesOK E.T = true) (hS : StemHyp E) (s : List Nat) :
    TokInv E true s (runSteps E Gen.srcQuerySteps s) :=
  C15_query_anyK E (hK ▸ hU) hT hS s

/-- **C15 for `tokenize_record`.** As `C15_query`, and every word of a record is finished. -/
theorem C15_record (E : Env) (hK : E.K = Gen.srcConsts) (hU : UnicodeFacts E.U Gen.srcConsts)
    (hT : TablesOK E.T = true) (hS : StemHyp E) (s : List Nat) :
    TokInv E false s (runSteps E Gen.srcRecordSteps s) :=
  C15_record_anyK E (hK ▸ hU) hT hS s

/-- the entry points of the registry at the generated program -/
theorem C15_tokenizeQuery_src (U : Unicode) (T : LangTables) (stem : List Nat → Nat)
    (hU : UnicodeFacts U Gen.srcConsts) (hT : TablesOK T = true)
    (hS : StemHyp (Gen.srcProg.env U T stem)) (s : List Nat) :
    TokInv (Gen.srcProg.env U T stem) true s (tokenizeQuery Gen.srcProg (Gen.srcProg.env U T stem) s) :=
  C15_query _ rfl hU hT hS s

theorem C15_tokenizeRecord_src (U : Unicode) (T : LangTables) (stem : List Nat → Nat)
    (hU : UnicodeFacts U Gen.srcConsts) (hT : TablesOK T = true)
    (hS : StemHyp (Gen.srcProg.env U T stem)) (s : List Nat) :
    TokInv (Gen.srcProg.env U T stem) false s (tokenizeRecord Gen.srcProg (Gen.srcProg.env U T stem) s) :=
  C15_record _ rfl hU hT hS s

theorem stemHyp_of_no_stemmer (E : Env) (h : E.T.stemmer = false) : StemHyp E := by
  intro h'; rw [h] at h'; cases h'

/-! ### consequences of `TokInv` -/

theorem TokInv.classes_length {E : Env} {q : Bool} {s : List Nat} {t : Text} (h : TokInv E q s t) :
    t.classes.length = t.chars.length := h.len_classes

theorem TokInv.slice_in_bounds {E : Env} {q : Bool} {s : List Nat} {t : Text} (h : TokInv E q s t) :
    ∀ w ∈ t.words, w.lo < w.hi ∧ w.hi ≤ t.chars.length ∧ w.hi ≤ t.classes.length ∧ w.hi ≤ t.source.length := by
  intro w hw
  have := h.bounds w hw
  rw [h.len_classes, h.len_source]
  omega

theorem TokInv.consecutive {E : Env} {q : Bool} {s : List Nat} {t : Text} (h : TokInv E q s t)
    (i : Nat) (a b : WordShape) (ha : t.words[i]? = some a) (hb : t.words[i + 1]? = some b) : a.hi ≤ b.lo := by
  obtain ⟨hil, hie⟩ := List.getElem?_eq_some_iff.1 ha
  obtain ⟨hjl, hje⟩ := List.getElem?_eq_some_iff.1 hb
  have := List.pairwise_iff_getElem.1 h.ordered i (i + 1) hil hjl (by omega)
  rw [hie, hje] at this; exact this

theorem TokInv.gap_not_alnum {E : Env} {qf : Bool} {s : List Nat} {t : Text} (h : TokInv E qf s t)
    (i : Nat) (a b : WordShape) (ha : t.words[i]? = some a) (hb : t.words[i + 1]? = some b)
    (p c : Nat) (hp1 : a.hi ≤ p) (hp2 : p < b.lo) (hc : t.chars[p]? = some c) : E.U.isAlnum c = false := by
  cases hal : E.U.isAlnum c with
  | false => rfl
  | true =>
    exfalso
    obtain ⟨w, hw, ⟨hw1, hw2⟩, _⟩ := h.cover p c hc hal
    obtain ⟨k, hk, rfl⟩ := List.mem_iff_getElem.mp hw
    obtain ⟨hil, rfl⟩ := List.getElem?_eq_some_iff.1 ha
    obtain ⟨hjl, rfl⟩ := List.getElem?_eq_some_iff.1 hb
    have hord := List.pairwise_iff_getElem.1 h.ordered
    have ba := h.bounds _ (List.getElem_mem hil)
    have bb := h.bounds _ (List.getElem_mem hjl)
    rcases Nat.lt_trichotomy k i with hki | rfl | hki
    · have := hord k i hk hil hki; omega
    · omega
    · by_cases e : k = i + 1
      · subst e; omega
      · have := hord (i + 1) k hjl hk (by omega); omega

theorem TokInv.fin_iff {E : Env} {s : List Nat} {t : Text} (h : TokInv E true s t) :
    ∀ w ∈ t.words, (w.fin = false ↔ w.hi = t.chars.length) := by
  intro w hw
  obtain ⟨i, hi⟩ := List.mem_iff_getElem?.1 hw
  by_cases hlast : i + 1 < t.words.length
  · have hf := h.fin_query_init rfl i w hi hlast
    have hb := h.bounds _ (List.getElem_mem hlast)
    have hc := h.consecutive i w _ hi (List.getElem?_eq_getElem hlast)
    exact ⟨fun h' => Bool.noConfusion (hf.symm.trans h'), fun h' => by omega⟩
  · apply h.fin_query_last rfl
    have := (List.getElem?_eq_some_iff.1 hi).1
    rw [List.getLast?_eq_getElem?, show t.words.length - 1 = i by omega]; exact hi

theorem TokInv.words_nil_iff {E : Env} {q : Bool} {s : List Nat} {t : Text} (h : TokInv E q s t) :
    t.words = [] ↔ ∀ c ∈ t.chars, E.U.isAlnum c = false := by
  constructor
  · intro hw c hc
    refine Bool.eq_false_iff.2 fun ha => ?_
    obtain ⟨p, hp⟩ := List.mem_iff_getElem?.1 hc
    obtain ⟨w, hwm, _⟩ := h.cover p c hp ha
    exact absurd hwm (hw ▸ List.not_mem_nil)
  · intro hall
    refine List.eq_nil_iff_forall_not_mem.2 fun w hw => ?_
    obtain ⟨c, hc, ha⟩ := h.first_alnum w hw
    exact Bool.false_ne_true ((hall c (List.mem_of_getElem? hc)).symm.trans ha)

/-! ### the hypotheses are satisfiable: a toy ASCII oracle -/

/-- toy Unicode oracle: letters `a–z`, `A–Z`; digits `0–9`; whitespace = space; control = below 32;
    upper-case `A–Z` with `to_lowercase` = `+32` -/
def toyU : Unicode where
  isAlphabetic c := (decide (97 ≤ c) && decide (c ≤ 122)) || (decide (65 ≤ c) && decide (c ≤ 90))
  isNumeric c := decide (48 ≤ c) && decide (c ≤ 57)
  isWhitespace c := decide (c = 32)
  isControl c := decide (c < 32)
  isUppercase c := decide (65 ≤ c) && decide (c ≤ 90)
  lower1 c := if 65 ≤ c ∧ c ≤ 90 then c + 32 else c

theorem toyU_bounded : BoundedOracle toyU Gen.srcConsts 123 := by
  refine ⟨by decide +kernel, fun c h => ⟨if_neg (by omega), ?_⟩, by decide +kernel, by decide⟩
  simp [toyU, Unicode.isAlnum]; omega

theorem toyU_facts : UnicodeFacts toyU Gen.srcConsts := toyU_bounded.facts

def toyStem (w : List Nat) : Nat := (w.length + 1) / 2

def toyEnv (T : LangTables) : Env := { U := toyU, K := Gen.srcConsts, T := T, stem := toyStem }

theorem toyStem_bounded {E : Env} (h : E.stem = toyStem) : StemBounded E := by
  intro w hw _
  have : 0 < w.length := List.length_pos_iff.2 hw
  rw [h, toyStem]
  omega

/-- decidable table condition for the toy oracle: the reduce table is `FoldClosed` and none of `a`–`z` (the only
    characters the toy `to_lowercase` produces) is a key -/
def ToyTableOK (T : LangTables) : Bool :=
  FoldClosed T.reduce && (List.range 26).all (fun i => (mapGet T.reduce [97 + i]).isNone)

theorem toyU_lowerKeyFree (T : LangTables) (stem : List Nat → Nat)
    (h : (List.range 26).all (fun i => (mapGet T.reduce [97 + i]).isNone) = true) :
    LowerKeyFree { U := toyU, K := Gen.srcConsts, T := T, stem := stem } := by
  intro c hc
  show mapGet T.reduce [if 65 ≤ c ∧ c ≤ 90 then c + 32 else c] = none
  split
  · rename_i hr
    have := (List.all_eq_true.1 h) (c - 65) (List.mem_range.2 (by omega))
    rw [Option.isNone_iff_eq_none] at this
    have e : c + 32 = 97 + (c - 65) := by omega
    rw [e]; exact this
  · exact hc

theorem toyStemHyp (T : LangTables) (h : ToyTableOK T = true) : StemHyp (toyEnv T) := by
  intro _
  simp only [ToyTableOK, Bool.and_eq_true] at h
  exact ⟨h.1, toyU_lowerKeyFree T toyStem h.2, toyStem_bounded rfl⟩

theorem toyTableOK_srcLangs : Gen.srcLangs.all (fun p => ToyTableOK p.2) = true := by
  simp only [Gen.srcLangs, List.all_cons, List.all_nil, ToyTableOK, foldClosed_none, foldClosed_de, foldClosed_en,
    foldClosed_es, foldClosed_fr, foldClosed_pt, foldClosed_ru, Bool.true_and, Bool.and_true]
  decide +kernel

theorem toyStemHyp_src {name : String} {T : LangTables} (hT : (name, T) ∈ Gen.srcLangs) : StemHyp (toyEnv T) :=
  toyStemHyp T (List.all_eq_true.mp toyTableOK_srcLangs _ hT)

/-- non-vacuity of `C15_query` / `C15_record`: all hypotheses hold for the toy oracle with the generated
    English and German tables (stemmer on) and with `lang_none` (no stem hypothesis needed) -/
example (s : List Nat) : TokInv (toyEnv Gen.lang_en) true s (runSteps (toyEnv Gen.lang_en) Gen.srcQuerySteps s) :=
  C15_query _ rfl toyU_facts tablesOK_en (toyStemHyp _ (by decide)) s

example (s : List Nat) : TokInv (toyEnv Gen.lang_de) false s (runSteps (toyEnv Gen.lang_de) Gen.srcRecordSteps s) :=
  C15_record _ rfl toyU_facts tablesOK_de (toyStemHyp_src (name := "de") (by simp [Gen.srcLangs])) s

example (s : List Nat) :
    TokInv (toyEnv Gen.lang_none) true s (runSteps (toyEnv Gen.lang_none) Gen.srcQuerySteps s) :=
  C15_query _ rfl toyU_facts tablesOK_none (stemHyp_of_no_stemmer _ (by decide)) s

/-! ### the restricted stem hypothesis is satisfiable by a stemmer that lengthens `ß` (as German Snowball does) -/

/-- a stemmer oracle behaving like the real German Snowball stemmer on `ß` (U+00DF = 223): every `ß` counts
    twice (the stemmer rewrites it to `ss`), so `deStem "ß" = 2 > 1` -/
def deStem (w : List Nat) : Nat := w.length + w.count 223

def eszettEnv : Env := { U := toyU, K := Gen.srcConsts, T := Gen.lang_de, stem := deStem }

theorem deStem_eszett : eszettEnv.stem [223] = 2 := by decide

/-- without the restriction to key-free words the bound (`∀ w ≠ [], 1 ≤ stem w ≤ |w|`) is false for this oracle … -/
theorem deStem_not_unrestricted :
    ¬ (∀ w : List Nat, w ≠ [] → 1 ≤ eszettEnv.stem w ∧ eszettEnv.stem w ≤ w.length) := by
  intro h
  have := (h [223] (by simp)).2
  rw [deStem_eszett] at this
  simp at this

/-- … but the restricted `StemBounded` holds: a word free of German reduce-table keys contains no `ß` -/
theorem deStem_bounded : StemBounded eszettEnv := by
  intro w hw hk
  have hl : 0 < w.length := List.length_pos_iff.2 hw
  have h0 : w.count 223 = 0 := List.count_eq_zero.2 fun hm => absurd (hk 223 hm) (by decide)
  show 1 ≤ w.length + w.count 223 ∧ w.length + w.count 223 ≤ w.length
  omega

theorem eszett_stemHyp : StemHyp eszettEnv :=
  fun _ => ⟨foldClosed_de, toyU_lowerKeyFree Gen.lang_de deStem (by decide +kernel), deStem_bounded⟩

/-- **non-vacuity for German**: `C15_query` / `C15_record` instantiated with the German tables and a stemmer
    oracle that, like the real one, returns 2 on `"ß"` -/
theorem C15_query_eszett (s : List Nat) : TokInv eszettEnv true s (runSteps eszettEnv Gen.srcQuerySteps s) :=
  C15_query _ rfl toyU_facts tablesOK_de eszett_stemHyp s

theorem C15_record_eszett (s : List Nat) : TokInv eszettEnv false s (runSteps eszettEnv Gen.srcRecordSteps s) :=
  C15_record _ rfl toyU_facts tablesOK_de eszett_stemHyp s

/-- `"Maß"` with the `ß`-doubling stemmer: the stemmer sees `mass` (4 characters, no `ß`), stem 4 ≤ len 4 -/
example : (runSteps eszettEnv Gen.srcRecordSteps [77, 97, 223]).words.map (fun w => (w.lo, w.hi, w.stem)) =
    [(0, 4, 4)] := by decide +kernel

/-- `"The Fox', 1st"` as a query: three words, the apostrophe is stripped (so `Fox` is finished), the last
    word reaches the end and is unfinished; `The` is recognised as an article after lowering -/
example : runSteps (toyEnv Gen.lang_en) Gen.srcQuerySteps [84, 104, 101, 32, 70, 111, 120, 39, 44, 32, 49, 115, 116] =
    { words := [{ offset := 0, lo := 0, hi := 3, stem := 2, pos := some Pos.article, fin := true },
                { offset := 1, lo := 4, hi := 7, stem := 2, pos := none, fin := true },
                { offset := 2, lo := 10, hi := 13, stem := 2, pos := none, fin := false }],
      source := [84, 104, 101, 32, 70, 111, 120, 39, 44, 32, 49, 115, 116],
      chars := [116, 104, 101, 32, 102, 111, 120, 39, 44, 32, 49, 115, 116],
      classes := [.consonant, .consonant, .vowel, .notAlpha, .consonant, .vowel, .consonant, .notAlpha,
                  .notAlpha, .notAlpha, .notAlpha, .consonant, .consonant] } := by decide +kernel

/-- the same text as a record: every word finished -/
example : (runSteps (toyEnv Gen.lang_en) Gen.srcRecordSteps [84, 104, 101, 32, 70, 111, 120, 39, 44, 32, 49, 115, 116]).words.map
    (fun w => (w.lo, w.hi, w.fin)) = [(0, 3, true), (4, 7, true), (10, 13, true)] := by decide +kernel

/-- `"straße"` in German: `ß` is reduced to `ss`, the source is padded with one NUL, and removing the NUL
    gives back the input -/
example : runSteps (toyEnv Gen.lang_de) Gen.srcRecordSteps [115, 116, 114, 97, 223, 101] =
    { words := [{ offset := 0, lo := 0, hi := 7, stem := 4, pos := none, fin := true }],
      source := [115, 116, 114, 97, 223, 0, 101],
      chars := [115, 116, 114, 97, 115, 115, 101],
      classes := [.consonant, .consonant, .consonant, .vowel, .consonant, .consonant, .vowel] } := by decide +kernel

def StemsLe (t : Text) : Prop := ∀ w ∈ t.words, w.stem ≤ w.len

theorem TokInv.textOK {E : Env} {qf : Bool} {s : List Nat} {t : Text} (h : TokInv E qf s t) : TextOK t where
  lens := ⟨h.len_source, h.len_classes⟩
  offsets := by
    intro i hi
    have := congrArg (fun l => l[i]?) h.offsets
    simp only [List.getElem?_map, List.getElem?_range hi, List.getElem?_eq_getElem hi] at this
    simpa using this
  bounds := h.bounds
  ordered := by
    intro i hi
    exact List.pairwise_iff_getElem.1 h.ordered i (i + 1) (by omega) hi (by omega)
  stems := fun w hw => (h.stem w hw).1

theorem TokInv.stemsLe {E : Env} {qf : Bool} {s : List Nat} {t : Text} (h : TokInv E qf s t) : StemsLe t :=
  fun w hw => (h.stem w hw).2

end Lucid
