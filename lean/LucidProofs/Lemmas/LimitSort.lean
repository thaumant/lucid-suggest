/-
  LucidProofs.Lemmas.LimitSort — the bounded top-k selection of `utils/limitsort.rs` (model:
  `Lucid.limitSort`) satisfies the relational specification `TopK` for every limit (0 included), every
  input, every buffer factor (the source has 2; with 0 the buffer is cut after every push) and every sorting
  subroutine that returns a sorted permutation, for any total preorder.
-/
import LucidModel.LimitSort

namespace Lucid
variable {α : Type}


structure SortSpec (le : α → α → Bool) (sort : List α → List α) : Prop where
  perm   : ∀ l, (sort l).Perm l
  sorted : ∀ l, (sort l).Pairwise (fun a b => le a b = true)

structure Preorder' (le : α → α → Bool) : Prop where
  trans : ∀ a b c, le a b = true → le b c = true → le a c = true
  total : ∀ a b, le a b = true ∨ le b a = true

theorem Preorder'.comap {β : Type} {le : α → α → Bool} (P : Preorder' le) (f : β → α) :
    Preorder' (fun a b => le (f a) (f b)) :=
  ⟨fun _ _ _ => P.trans _ _ _, fun _ _ => P.total _ _⟩

section Loop
variable {le : α → α → Bool} {limit : Nat} {buf dropped : List α}

def cnt (le : α → α → Bool) (l : List α) (d : α) : Nat := (l.filter (fun b => le b d)).length

/-- the invariant of the loop: every element dropped so far has `limit` buffered elements not worse than it -/
def Kept (le : α → α → Bool) (limit : Nat) (buf dropped : List α) : Prop := ∀ d ∈ dropped, limit ≤ cnt le buf d

theorem cnt_perm {l l' : List α} (h : l.Perm l') (d : α) : cnt le l d = cnt le l' d :=
  (h.filter _).length_eq

theorem cnt_append (l l' : List α) (d : α) : cnt le (l ++ l') d = cnt le l d + cnt le l' d := by
  simp [cnt, List.filter_append]

theorem cnt_le_length (l : List α) (d : α) : cnt le l d ≤ l.length := List.length_filter_le _ _

theorem le_of_length_le_cnt {l : List α} {d : α} (h : l.length ≤ cnt le l d) : ∀ y ∈ l, le y d = true :=
  List.filter_eq_self.mp (List.filter_sublist.eq_of_length_le h)

theorem take_keeps (P : Preorder' le) {l : List α}
    (hs : l.Pairwise (fun a b => le a b = true)) (k : Nat) (d : α) (hk : k ≤ cnt le l d) :
    k ≤ cnt le (l.take k) d := by
  induction l generalizing k with
  | nil => simpa using hk
  | cons a t ih =>
    cases k with
    | zero => exact Nat.zero_le _
    | succ k =>
      rw [List.pairwise_cons] at hs
      by_cases had : le a d = true
      · have := ih hs.2 k (by simpa [cnt, had] using hk)
        simpa [cnt, had] using this
      · -- `a` is worse than `d`, and then so is everything after `a`: no element counts
        have : cnt le (a :: t) d = 0 := by
          simp only [cnt, List.length_eq_zero_iff, List.filter_eq_nil_iff, List.mem_cons, forall_eq_or_imp]
          exact ⟨had, fun b hb hbd => had (P.trans a b d (hs.1 b hb) hbd)⟩
        omega

theorem Kept.push (h : Kept le limit buf dropped) (x : α) : Kept le limit (buf ++ [x]) dropped :=
  fun d hd => cnt_append (le := le) .. ▸ Nat.le_add_right_of_le (h d hd)

theorem Kept.trunc (P : Preorder' le) (h : Kept le limit buf dropped) {s : List α} (hp : s.Perm buf)
    (hs : s.Pairwise (fun a b => le a b = true)) : Kept le limit (s.take limit) (dropped ++ s.drop limit) := by
  intro d hd
  rcases List.mem_append.mp hd with hd | hd
  · exact take_keeps P hs limit d (cnt_perm hp d ▸ h d hd)
  · -- cut off now: the `limit` kept entries all precede it in the sorted list
    have hl : limit ≤ (s.take limit).length := by
      have := List.length_pos_of_mem hd
      simp only [List.length_drop, List.length_take] at this ⊢; omega
    rwa [cnt, List.filter_eq_self.mpr fun y hy => hs.rel_of_mem_take_of_mem_drop hy hd]

theorem loop_inv (P : Preorder' le) {sort : List α → List α} (S : SortSpec le sort) (factor : Nat) (xs : List α) :
    ∀ buf dropped, Kept le limit buf dropped →
      ∃ dropped', Kept le limit (limitLoop sort factor limit buf xs) dropped' ∧
        (dropped' ++ limitLoop sort factor limit buf xs).Perm (dropped ++ buf ++ xs) := by
  induction xs with
  | nil => exact fun buf dropped h => ⟨dropped, h, by simp [limitLoop]⟩
  | cons x xs ih =>
    intro buf dropped h
    rw [limitLoop]
    split
    · obtain ⟨d', hk, hp⟩ := ih _ _ ((h.push x).trunc P (S.perm _) (S.sorted _))
      refine ⟨d', hk, hp.trans ?_⟩
      have : ((sort (buf ++ [x])).drop limit ++ (sort (buf ++ [x])).take limit).Perm (buf ++ [x]) :=
        List.perm_append_comm.trans (by rw [List.take_append_drop]; exact S.perm _)
      simpa using ((this.append_left dropped).append_right xs)
    · obtain ⟨d', hk, hp⟩ := ih _ _ (h.push x)
      exact ⟨d', hk, by simpa using hp⟩

end Loop

/-- `TopK le k xs ys`: `ys` is a selection of the `k` best of `xs` — sorted by `le`, of length `min k |xs|`, and
    together with some `rest` a permutation of `xs` in which every kept element is not after any dropped one.
    Which elements are kept among ties, and their order, is left open. -/
def TopK (le : α → α → Bool) (k : Nat) (xs ys : List α) : Prop :=
  ys.Pairwise (fun a b => le a b = true) ∧ ys.length = min k xs.length ∧
  ∃ rest, (ys ++ rest).Perm xs ∧ ∀ y ∈ ys, ∀ r ∈ rest, le y r = true

theorem limitSort_TopK {le : α → α → Bool} (P : Preorder' le) {sort : List α → List α} (S : SortSpec le sort)
    (factor limit : Nat) (xs : List α) : TopK le limit xs (limitSort sort factor limit xs) := by
  obtain ⟨dropped, hk, (hp : (dropped ++ _).Perm xs)⟩ :=
    loop_inv (limit := limit) P S factor xs [] [] (fun _ h => nomatch h)
  rw [limitSort]
  generalize limitLoop sort factor limit [] xs = buf at hp hk
  have hk' := hk.trunc P (S.perm buf) (S.sorted buf)
  have hl : ((sort buf).take limit).length = min limit buf.length := by rw [List.length_take, (S.perm buf).length_eq]
  refine ⟨(S.sorted buf).sublist (List.take_sublist _ _), ?_, dropped ++ (sort buf).drop limit, ?_,
    fun y hy r hr => le_of_length_le_cnt (Nat.le_trans (hl ▸ Nat.min_le_left ..) (hk' r hr)) y hy⟩
  · -- nothing dropped: the buffer is the input; otherwise the buffer holds at least `limit` entries
    have hx : dropped.length + buf.length = xs.length := by rw [← hp.length_eq, List.length_append]
    rw [hl]
    cases dropped with
    | nil => rw [← hx, List.length_nil, Nat.zero_add]
    | cons d _ =>
      have h1 := Nat.le_trans (hk d (List.mem_cons_self ..)) (cnt_le_length buf d)
      rw [Nat.min_eq_left h1, Nat.min_eq_left (Nat.le_trans h1 (hx ▸ Nat.le_add_left ..))]
  · refine (List.perm_append_comm.append_left _).trans ?_
    rw [← List.append_assoc, List.take_append_drop]
    exact ((S.perm buf).append_right dropped).trans (List.perm_append_comm.trans hp)


theorem SortSpec.of_insert {le : α → α → Bool} (P : Preorder' le) (ins : α → List α → List α)
    (h0 : ∀ x, ins x [] = [x])
    (hc : ∀ x y ys, ins x (y :: ys) = if le x y then x :: y :: ys else y :: ins x ys) :
    SortSpec le (fun l => l.foldr ins []) := by
  have perm : ∀ x l, (ins x l).Perm (x :: l) := by
    intro x l
    induction l with
    | nil => rw [h0]
    | cons y ys ih =>
      rw [hc]; split
      · exact List.Perm.refl _
      · exact (ih.cons y).trans (List.Perm.swap x y ys)
  have sorted : ∀ x l, l.Pairwise (fun a b => le a b = true) → (ins x l).Pairwise (fun a b => le a b = true) := by
    intro x l hl
    induction l with
    | nil => rw [h0]; exact List.pairwise_singleton _ _
    | cons y ys ih =>
      have hy := List.pairwise_cons.mp hl
      rw [hc]; split
      · rename_i h
        refine List.pairwise_cons.mpr ⟨fun z hz => ?_, hl⟩
        rcases List.mem_cons.mp hz with rfl | hz
        · exact h
        · exact P.trans _ _ _ h (hy.1 z hz)
      · rename_i h
        refine List.pairwise_cons.mpr ⟨fun z hz => ?_, ih hy.2⟩
        rcases List.mem_cons.mp ((perm x ys).mem_iff.mp hz) with rfl | hz
        · exact (P.total z y).resolve_left h
        · exact hy.1 z hz
  refine ⟨fun l => ?_, fun l => ?_⟩
  · induction l with
    | nil => exact List.Perm.refl _
    | cons x l ih => exact (perm x _).trans (ih.cons x)
  · induction l with
    | nil => exact List.Pairwise.nil
    | cons x l ih => exact sorted x _ ih

end Lucid
