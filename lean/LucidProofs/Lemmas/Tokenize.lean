/-
  LucidProofs.Lemmas.Tokenize — `tokenization/{text,word_shape,word_split}.rs`
  (model: `splitSpans`, `splitWord`, `stripWord`, `renumber`, `Text.split`, `Text.strip`, `Text.lower`,
  `Text.setPos`, `Text.setCharClasses`, `Text.setStem`).

  Two equations say what the `splitSpans` scan does: a text without separators is one span (`splitSpans_run`), and
  a separator cuts the text into two independently scanned pieces (`splitSpans_append_sep`, with `splitSpans_shift`
  for the positions). Every text is built that way (`sepInduction`), and each property of the spans is proved along
  that induction.

  Both pipelines in closed form (`tokenizeQuery_eq`, `tokenizeRecord_eq`): the result is `tokText`, built from the
  normalised characters by `wordSpans` (split, then strip) and `Span.toWord`; every later fact about tokenised
  texts is read off this equation, first its character and class arrays (`tokenizeQuery_chars`,
  `tokenizeQuery_classes`). `wordSpans_append_sep`: a separator cuts the text into independently tokenised
  pieces.
-/
import LucidProofs.Lemmas.ListFacts
import LucidProofs.Lemmas.Normalize

namespace Lucid

/-! ## `splitSpans` -/

theorem splitSpans_run (isSep : Nat → Bool) (cs : List Nat) (pos : Nat) (cur : Option Nat)
    (h : ∀ c ∈ cs, isSep c = false) (hne : cur = none → cs ≠ []) :
    splitSpans isSep cs pos cur = [(cur.getD pos, pos + cs.length)] := by
  induction cs generalizing pos cur with
  | nil => cases cur <;> simp_all [splitSpans]
  | cons c cs ih =>
    have hc : isSep c = false := h c (List.mem_cons_self ..)
    cases cur <;> simp only [splitSpans, hc, Bool.false_eq_true, if_false] <;>
      rw [ih _ _ (fun c hc => h c (List.mem_cons_of_mem _ hc)) (by simp)] <;> simp <;> omega

theorem splitSpans_shift (isSep : Nat → Bool) (cs : List Nat) (pos d : Nat) (cur : Option Nat) :
    splitSpans isSep cs (pos + d) (cur.map (· + d)) =
      (splitSpans isSep cs pos cur).map (fun x => (x.1 + d, x.2 + d)) := by
  induction cs generalizing pos cur with
  | nil => cases cur <;> rfl
  | cons c rest ih =>
    have e : pos + d + 1 = pos + 1 + d := by omega
    cases cur <;> by_cases h : isSep c = true <;> simp only [splitSpans, Option.map_none, Option.map_some, e, h, if_true,
      List.map_cons] <;> first | exact ih (pos + 1) none | exact ih (pos + 1) (some _) | exact congrArg _ (ih (pos + 1) none)

theorem splitSpans_append_sep (isSep : Nat → Bool) (u : List Nat) (sep : Nat) (v : List Nat) (pos : Nat)
    (cur : Option Nat) (hsep : isSep sep = true) :
    splitSpans isSep (u ++ sep :: v) pos cur =
      splitSpans isSep u pos cur ++ splitSpans isSep v (pos + u.length + 1) none := by
  induction u generalizing pos cur with
  | nil => cases cur <;> simp [splitSpans, hsep]
  | cons c u ih =>
    have e : pos + 1 + u.length + 1 = pos + (u.length + 1) + 1 := by omega
    cases cur <;> by_cases h : isSep c = true <;> simp [splitSpans, h, ih, e]

/-- the `WordSplit` iterator run on a whole text -/
abbrev spansOf (isSep : Nat → Bool) (l : List Nat) : List (Nat × Nat) := splitSpans isSep l 0 none

theorem mem_spansOf_run {p : Nat → Bool} {u : List Nat} (hu : ∀ c ∈ u, p c = false) {x : Nat × Nat} :
    x ∈ spansOf p u ↔ u ≠ [] ∧ x = (0, u.length) := by
  by_cases h : u = []
  · subst h; simp [splitSpans]
  · simp [splitSpans_run p u 0 none hu (fun _ => h), h]

theorem spansOf_append_sep {p : Nat → Bool} (u : List Nat) {sep : Nat} (v : List Nat) (hsep : p sep = true) :
    spansOf p (u ++ sep :: v) =
      spansOf p u ++ (spansOf p v).map (fun y => (y.1 + (u.length + 1), y.2 + (u.length + 1))) := by
  have e := splitSpans_shift p v 0 (u.length + 1) none
  simp only [Option.map_none, Nat.zero_add] at e
  rw [spansOf, splitSpans_append_sep p u sep v 0 none hsep, Nat.zero_add, e]

theorem mem_spansOf_cut {p : Nat → Bool} (u : List Nat) {sep : Nat} (v : List Nat) (hsep : p sep = true)
    {x : Nat × Nat} :
    x ∈ spansOf p (u ++ sep :: v) ↔
      x ∈ spansOf p u ∨ ∃ y ∈ spansOf p v, x = (y.1 + (u.length + 1), y.2 + (u.length + 1)) := by
  simp only [spansOf_append_sep u v hsep, List.mem_append, List.mem_map, eq_comm]

theorem sepInduction (p : Nat → Bool) {P : List Nat → Prop}
    (run : ∀ u, (∀ c ∈ u, p c = false) → P u)
    (cut : ∀ u sep v, p sep = true → P u → P v → P (u ++ sep :: v)) (l : List Nat) : P l := by
  suffices h : ∀ u, (∀ c ∈ u, p c = false) → P (u ++ l) from h [] (by simp)
  induction l with
  | nil => intro u hu; simpa using run u hu
  | cons c l ih =>
    intro u hu
    by_cases hc : p c = true
    · exact cut u c l hc (run u hu) (ih [] (by simp))
    · have := ih (u ++ [c]) (by simp; intro d hd; rcases hd with hd | rfl; exact hu d hd; simpa using hc)
      simpa using this

theorem getElem?_cut_left {u : List Nat} {k c : Nat} (sep : Nat) (v : List Nat) (h : u[k]? = some c) :
    (u ++ sep :: v)[k]? = some c := by
  rw [List.getElem?_append_left (List.getElem?_eq_some_iff.1 h).1]; exact h

theorem getElem?_cut_right (u : List Nat) (sep : Nat) (v : List Nat) (k : Nat) :
    (u ++ sep :: v)[k + (u.length + 1)]? = v[k]? := by
  rw [List.getElem?_append_right (by omega), show k + (u.length + 1) - u.length = k + 1 by omega]; rfl

theorem getElem?_cut_sep (u : List Nat) (sep : Nat) (v : List Nat) : (u ++ sep :: v)[u.length]? = some sep := by
  simp

theorem spansOf_bounds (p : Nat → Bool) (l : List Nat) : ∀ x ∈ spansOf p l, x.1 < x.2 ∧ x.2 ≤ l.length := by
  induction l using sepInduction p with
  | run u hu =>
    intro x hx
    obtain ⟨hne, rfl⟩ := (mem_spansOf_run hu).1 hx
    exact ⟨List.length_pos_iff.2 hne, Nat.le_refl _⟩
  | cut u sep v hsep hu hv =>
    intro x hx
    rw [List.length_append, List.length_cons]
    rcases (mem_spansOf_cut u v hsep).1 hx with hx | ⟨y, hy, rfl⟩
    · have := hu x hx; omega
    · have := hv y hy; simp only; omega

theorem spansOf_nosep (p : Nat → Bool) (l : List Nat) :
    ∀ x ∈ spansOf p l, ∀ k, x.1 ≤ k → k < x.2 → ∃ c, l[k]? = some c ∧ p c = false := by
  induction l using sepInduction p with
  | run u hu =>
    intro x hx k _ h2
    obtain ⟨_, rfl⟩ := (mem_spansOf_run hu).1 hx
    exact ⟨u[k], List.getElem?_eq_getElem h2, hu _ (List.getElem_mem _)⟩
  | cut u sep v hsep hu hv =>
    intro x hx k h1 h2
    rcases (mem_spansOf_cut u v hsep).1 hx with hx | ⟨y, hy, rfl⟩
    · obtain ⟨c, hc, hp⟩ := hu x hx k h1 h2
      exact ⟨c, getElem?_cut_left sep v hc, hp⟩
    · simp only at h1 h2
      obtain ⟨j, rfl⟩ : ∃ j, k = j + (u.length + 1) := ⟨k - (u.length + 1), by omega⟩
      rw [getElem?_cut_right]
      exact hv y hy j (by omega) (by omega)

theorem spansOf_cover (p : Nat → Bool) (l : List Nat) :
    ∀ k c, l[k]? = some c → p c = false → ∃ x ∈ spansOf p l, x.1 ≤ k ∧ k < x.2 := by
  induction l using sepInduction p with
  | run u hu =>
    intro k c hk _
    have hk := (List.getElem?_eq_some_iff.1 hk).1
    exact ⟨_, (mem_spansOf_run hu).2 ⟨List.ne_nil_of_length_pos (by omega), rfl⟩, Nat.zero_le _, hk⟩
  | cut u sep v hsep hu hv =>
    intro k c hk hc
    simp only [mem_spansOf_cut u v hsep]
    rcases Nat.lt_trichotomy k u.length with h | h | h
    · obtain ⟨x, hx, h12⟩ := hu k c (by rwa [List.getElem?_append_left h] at hk) hc
      exact ⟨x, Or.inl hx, h12⟩
    · rw [h, getElem?_cut_sep] at hk
      cases hk; rw [hsep] at hc; cases hc
    · obtain ⟨j, rfl⟩ : ∃ j, k = j + (u.length + 1) := ⟨k - (u.length + 1), by omega⟩
      rw [getElem?_cut_right] at hk
      obtain ⟨y, hy, h1, h2⟩ := hv j c hk hc
      exact ⟨_, Or.inr ⟨y, hy, rfl⟩, by simp only; omega, by simp only; omega⟩

theorem spansOf_pairwise (p : Nat → Bool) (l : List Nat) :
    (spansOf p l).Pairwise (fun x y => x.2 < y.1) := by
  induction l using sepInduction p with
  | run u hu =>
    by_cases h : u = []
    · subst h; exact List.Pairwise.nil
    · rw [spansOf, splitSpans_run p u 0 none hu (fun _ => h)]; exact List.pairwise_singleton _ _
  | cut u sep v hsep hu hv =>
    rw [spansOf_append_sep u v hsep, List.pairwise_append]
    refine ⟨hu, List.pairwise_map.2 (hv.imp (by intro a b h; simp only; omega)), ?_⟩
    intro x hx y hy
    obtain ⟨z, _, rfl⟩ := List.mem_map.1 hy
    have := spansOf_bounds p u x hx
    simp only; omega

theorem spansOf_endmax (isSep : Nat → Bool) (l : List Nat) :
    ∀ x ∈ spansOf isSep l, x.2 = l.length ∨ ∃ c, l[x.2]? = some c ∧ isSep c = true := by
  induction l using sepInduction isSep with
  | run u hu =>
    intro x hx
    obtain ⟨_, rfl⟩ := (mem_spansOf_run hu).1 hx
    exact Or.inl rfl
  | cut u sep v hsep hu hv =>
    intro x hx
    rcases (mem_spansOf_cut u v hsep).1 hx with hx | ⟨y, hy, rfl⟩
    · right
      rcases hu x hx with h | ⟨c, hc, hp⟩
      · exact ⟨sep, h ▸ getElem?_cut_sep u sep v, hsep⟩
      · exact ⟨c, getElem?_cut_left sep v hc, hp⟩
    · simp only [getElem?_cut_right, List.length_append, List.length_cons]
      rcases hv y hy with h | h
      · left; omega
      · exact Or.inr h

theorem spansOf_startmax (isSep : Nat → Bool) (l : List Nat) :
    ∀ x ∈ spansOf isSep l, x.1 = 0 ∨ (0 < x.1 ∧ ∃ c, l[x.1 - 1]? = some c ∧ isSep c = true) := by
  induction l using sepInduction isSep with
  | run u hu =>
    intro x hx
    obtain ⟨_, rfl⟩ := (mem_spansOf_run hu).1 hx
    exact Or.inl rfl
  | cut u sep v hsep hu hv =>
    intro x hx
    rcases (mem_spansOf_cut u v hsep).1 hx with hx | ⟨y, hy, rfl⟩
    · rcases hu x hx with h | ⟨h0, c, hc, hp⟩
      · exact Or.inl h
      · exact Or.inr ⟨h0, c, getElem?_cut_left sep v hc, hp⟩
    · refine Or.inr ⟨by simp only; omega, ?_⟩
      rcases hv y hy with h | ⟨h0, h⟩
      · refine ⟨sep, ?_, hsep⟩
        simp only [h, Nat.zero_add, Nat.add_sub_cancel]
        exact getElem?_cut_sep u sep v
      · rw [show y.1 + (u.length + 1) - 1 = (y.1 - 1) + (u.length + 1) by omega, getElem?_cut_right]
        exact h

/-- every non-separator position lies in exactly one span -/
theorem spansOf_cover_unique (isSep : Nat → Bool) (l : List Nat) (k c : Nat)
    (hk : l[k]? = some c) (hc : isSep c = false) :
    ∃ x ∈ spansOf isSep l, (x.1 ≤ k ∧ k < x.2) ∧
      ∀ y ∈ spansOf isSep l, y.1 ≤ k → k < y.2 → y = x := by
  obtain ⟨x, hx, h1, h2⟩ := spansOf_cover isSep l k c hk hc
  refine ⟨x, hx, ⟨h1, h2⟩, fun y hy h3 h4 => ?_⟩
  exact pairwise_unique (spansOf_pairwise isSep l) hy hx (Nat.not_lt.2 (Nat.le_of_lt (Nat.lt_of_le_of_lt h1 h4)))
    (Nat.not_lt.2 (Nat.le_of_lt (Nat.lt_of_le_of_lt h3 h2)))

/-- some span ends at the end of the text iff the last character is not a separator -/
theorem spansOf_ends_at_end_iff (isSep : Nat → Bool) (l : List Nat) :
    (∃ x ∈ spansOf isSep l, x.2 = l.length) ↔ ∃ c, l.getLast? = some c ∧ isSep c = false := by
  rw [List.getLast?_eq_getElem?]
  constructor
  · rintro ⟨x, hx, he⟩
    have hb := spansOf_bounds isSep l x hx
    exact spansOf_nosep isSep l x hx (l.length - 1) (by omega) (by omega)
  · rintro ⟨c, hc, hs⟩
    obtain ⟨x, hx, h1, h2⟩ := spansOf_cover isSep l _ c hc hs
    have hb := spansOf_bounds isSep l x hx
    exact ⟨x, hx, by omega⟩

/-- only the last span can end at the end of the text -/
theorem spansOf_end_is_last (isSep : Nat → Bool) (l : List Nat) (i : Nat) (x : Nat × Nat)
    (hi : (spansOf isSep l)[i]? = some x) (he : x.2 = l.length) : i + 1 = (spansOf isSep l).length := by
  obtain ⟨hil, hie⟩ := List.getElem?_eq_some_iff.1 hi
  by_cases h : i + 1 < (spansOf isSep l).length
  · have hp := spansOf_pairwise isSep l
    rw [List.pairwise_iff_getElem] at hp
    have := hp i (i + 1) hil h (by omega)
    have hb := spansOf_bounds isSep l _ (List.getElem_mem h)
    rw [hie] at this; omega
  · omega

/-! ## spans of words and `stripWord` -/

/-- the part of a word that split/strip compute and that the later steps leave alone -/
structure Span where
  lo  : Nat
  hi  : Nat
  fin : Bool
deriving DecidableEq, Repr

def WordShape.span (w : WordShape) : Span := ⟨w.lo, w.hi, w.fin⟩

def stripLeft (isPat : Nat → Bool) (cs : List Nat) : Nat := (cs.takeWhile isPat).length

def stripRight (isPat : Nat → Bool) (cs : List Nat) : Nat :=
  ((cs.reverse.takeWhile isPat).take (cs.length - stripLeft isPat cs)).length

/-- `WordShape::strip` on the span of a word -/
def stripSpan (isPat : Nat → Bool) (chars : List Nat) (x : Span) : Span :=
  ⟨x.lo + stripLeft isPat (slice chars x.lo x.hi), x.hi - stripRight isPat (slice chars x.lo x.hi),
   x.fin || decide (stripRight isPat (slice chars x.lo x.hi) ≠ 0)⟩

theorem stripWord_span (isPat : Nat → Bool) (chars : List Nat) (w : WordShape) :
    (stripWord isPat chars w).span = stripSpan isPat chars w.span := rfl

theorem stripRight_eq (p : Nat → Bool) (cs : List Nat) :
    stripRight p cs = min (cs.length - stripLeft p cs) (stripLeft p cs.reverse) := by
  simp only [stripRight, stripLeft, List.length_take]

theorem stripLeft_add_stripRight_le (p : Nat → Bool) (cs : List Nat) :
    stripLeft p cs + stripRight p cs ≤ cs.length := by
  have : stripLeft p cs ≤ cs.length := (List.takeWhile_sublist p).length_le
  rw [stripRight_eq]; omega

theorem stripLeft_le_of_not {p : Nat → Bool} {cs : List Nat} {k c : Nat} (hk : cs[k]? = some c) (hc : p c = false) :
    stripLeft p cs ≤ k := by
  refine Nat.le_of_not_lt fun hlt => ?_
  obtain ⟨c', hc', hp⟩ := takeWhile_getElem? p cs k hlt
  rw [hk] at hc'; cases hc'; rw [hc] at hp; cases hp

theorem lt_stripRight_of_not {p : Nat → Bool} {cs : List Nat} {k c : Nat} (hk : cs[k]? = some c) (hc : p c = false) :
    k + stripRight p cs < cs.length := by
  obtain ⟨i, hi⟩ := Nat.exists_eq_add_of_lt (List.getElem?_eq_some_iff.1 hk).1
  have h1 := stripLeft_le_of_not (p := p) ((List.getElem?_reverse' (by rw [hi, Nat.add_comm i k])).trans hk) hc
  rw [stripRight_eq]; omega

theorem stripLeft_stop {p : Nat → Bool} {cs : List Nat} (h : stripLeft p cs < cs.length) :
    ∃ c, cs[stripLeft p cs]? = some c ∧ p c = false := takeWhile_stop p cs h

theorem stripRight_stop {p : Nat → Bool} {cs : List Nat} {k : Nat} (hk : k + stripRight p cs + 1 = cs.length)
    (h : stripLeft p cs ≤ k) : ∃ c, cs[k]? = some c ∧ p c = false := by
  have ⟨h1, h2⟩ : stripLeft p cs.reverse < cs.length ∧ stripLeft p cs.reverse + k + 1 = cs.length := by
    rw [stripRight_eq] at hk; omega
  obtain ⟨c, hc, hp⟩ := stripLeft_stop (p := p) (cs := cs.reverse) (by rwa [List.length_reverse])
  exact ⟨c, (List.getElem?_reverse' h2).symm.trans hc, hp⟩

theorem stripSpan_lo_le (p : Nat → Bool) (chars : List Nat) (x : Span) : x.lo ≤ (stripSpan p chars x).lo :=
  Nat.le_add_right _ _

theorem stripSpan_hi_le (p : Nat → Bool) (chars : List Nat) (x : Span) : (stripSpan p chars x).hi ≤ x.hi :=
  Nat.sub_le _ _

theorem stripSpan_lo_le_hi (p : Nat → Bool) (chars : List Nat) (x : Span) (h : x.lo ≤ x.hi) :
    (stripSpan p chars x).lo ≤ (stripSpan p chars x).hi := by
  have := stripLeft_add_stripRight_le p (slice chars x.lo x.hi)
  have := slice_length_le chars x.lo x.hi
  simp only [stripSpan]; omega

theorem stripRight_slice_le (p : Nat → Bool) (chars : List Nat) (lo hi : Nat) :
    stripRight p (slice chars lo hi) ≤ hi :=
  Nat.le_trans (Nat.le_trans (Nat.le_add_left _ _) (stripLeft_add_stripRight_le p _))
    (Nat.le_trans (slice_length_le chars lo hi) (Nat.sub_le _ _))

theorem stripSpan_fin (p : Nat → Bool) (chars : List Nat) (x : Span) :
    (stripSpan p chars x).fin = (x.fin || decide ((stripSpan p chars x).hi ≠ x.hi)) := by
  have := stripRight_slice_le p chars x.lo x.hi
  simp only [stripSpan]
  exact congrArg _ (decide_eq_decide.2 (by omega))

theorem stripSpan_keep {p : Nat → Bool} {chars : List Nat} {x : Span} {k c : Nat} (h1 : x.lo ≤ k) (h2 : k < x.hi)
    (hk : chars[k]? = some c) (hc : p c = false) : (stripSpan p chars x).lo ≤ k ∧ k < (stripSpan p chars x).hi := by
  obtain ⟨j, rfl⟩ := Nat.exists_eq_add_of_le h1
  have hs : (slice chars x.lo x.hi)[j]? = some c := by rw [slice_getElem?, if_pos (by omega)]; exact hk
  have := stripLeft_le_of_not hs hc
  have := lt_stripRight_of_not hs hc
  have := slice_length_le chars x.lo x.hi
  simp only [stripSpan]; omega

theorem stripSpan_first {p : Nat → Bool} {chars : List Nat} {x : Span} (hhi : x.hi ≤ chars.length)
    (h : (stripSpan p chars x).lo < (stripSpan p chars x).hi) :
    ∃ c, chars[(stripSpan p chars x).lo]? = some c ∧ p c = false := by
  have hl := slice_length chars x.lo x.hi hhi
  have ⟨h1, h2⟩ : stripLeft p (slice chars x.lo x.hi) < (slice chars x.lo x.hi).length ∧
      stripLeft p (slice chars x.lo x.hi) < x.hi - x.lo := by simp only [stripSpan] at h; omega
  obtain ⟨c, hc, hp⟩ := stripLeft_stop h1
  rw [slice_getElem?, if_pos h2] at hc
  exact ⟨c, hc, hp⟩

theorem stripSpan_last {p : Nat → Bool} {chars : List Nat} {x : Span} (hhi : x.hi ≤ chars.length)
    (h : (stripSpan p chars x).lo < (stripSpan p chars x).hi) :
    ∃ c, chars[(stripSpan p chars x).hi - 1]? = some c ∧ p c = false := by
  have hl := slice_length chars x.lo x.hi hhi
  obtain ⟨k, hk⟩ := Nat.exists_eq_add_of_lt h
  simp only [stripSpan] at hk ⊢
  have ⟨h1, h3⟩ : stripLeft p (slice chars x.lo x.hi) + k + stripRight p (slice chars x.lo x.hi) + 1 =
      (slice chars x.lo x.hi).length ∧ stripLeft p (slice chars x.lo x.hi) + k < x.hi - x.lo := by omega
  obtain ⟨c, hc, hp⟩ := stripRight_stop h1 (Nat.le_add_right _ _)
  rw [slice_getElem?, if_pos h3, ← Nat.add_assoc] at hc
  exact ⟨c, by rwa [hk, Nat.add_sub_cancel], hp⟩

/-! ## invariants of the word list after `split` and after `strip` -/

/-- the `fin` flags: in a record every word is finished; in a query a word is unfinished exactly when it reaches
    the end of the text -/
def FinOK (query : Bool) (n : Nat) (x : Span) : Prop :=
  (query = false → x.fin = true) ∧ (query = true → (x.fin = false ↔ x.hi = n))

theorem FinOK.strip {q : Bool} {n : Nat} {x y : Span} (h : FinOK q n x) (hx : x.hi ≤ n) (hy : y.hi ≤ x.hi)
    (hf : y.fin = (x.fin || decide (y.hi ≠ x.hi))) : FinOK q n y := by
  refine ⟨fun hq => by rw [hf, h.1 hq]; rfl, fun hq => ?_⟩
  have hx2 := h.2 hq
  rw [hf, Bool.or_eq_false_iff, decide_eq_false_iff_not, Decidable.not_not]
  constructor
  · rintro ⟨a, b⟩; rw [b]; exact hx2.1 a
  · intro e
    have : x.hi = n := by omega
    exact ⟨hx2.2 this, by omega⟩

/-- state of the word list right after `split` -/
structure SplitInv (isSep : Nat → Bool) (query : Bool) (chars : List Nat) (xs : List Span) : Prop where
  bounds  : ∀ x ∈ xs, x.lo < x.hi ∧ x.hi ≤ chars.length
  ordered : xs.Pairwise (fun x y => x.hi ≤ y.lo)
  no_sep  : ∀ x ∈ xs, ∀ k, x.lo ≤ k → k < x.hi → ∃ c, chars[k]? = some c ∧ isSep c = false
  cover   : ∀ k c, chars[k]? = some c → isSep c = false → ∃ x ∈ xs, x.lo ≤ k ∧ k < x.hi
  fin     : ∀ x ∈ xs, FinOK query chars.length x

/-- state of the word list after `strip` (and after every later step) -/
structure SpanInv (isAl isSep : Nat → Bool) (query : Bool) (chars : List Nat) (xs : List Span) : Prop where
  bounds  : ∀ x ∈ xs, x.lo < x.hi ∧ x.hi ≤ chars.length
  ordered : xs.Pairwise (fun x y => x.hi ≤ y.lo)
  no_sep  : ∀ x ∈ xs, ∀ k, x.lo ≤ k → k < x.hi → ∃ c, chars[k]? = some c ∧ isSep c = false
  first   : ∀ x ∈ xs, ∃ c, chars[x.lo]? = some c ∧ isAl c = true
  last    : ∀ x ∈ xs, ∃ c, chars[x.hi - 1]? = some c ∧ isAl c = true
  cover   : ∀ k c, chars[k]? = some c → isAl c = true → ∃ x ∈ xs, x.lo ≤ k ∧ k < x.hi
  fin     : ∀ x ∈ xs, FinOK query chars.length x

/-- the spans produced by splitting one word `(0, chars.length)` with flag `f` -/
def splitSpanList (isSep : Nat → Bool) (f : Bool) (chars : List Nat) : List Span :=
  (spansOf isSep chars).map (fun se => ⟨se.1, se.2, f || decide (se.2 < chars.length)⟩)

theorem splitInv_splitSpanList (isSep : Nat → Bool) (query : Bool) (chars : List Nat) :
    SplitInv isSep query chars (splitSpanList isSep (!query) chars) := by
  refine ⟨?_, ?_, ?_, ?_, ?_⟩
  · intro x hx
    obtain ⟨se, hse, rfl⟩ := List.mem_map.1 hx
    exact spansOf_bounds isSep chars se hse
  · unfold splitSpanList
    rw [List.pairwise_map]
    exact (spansOf_pairwise isSep chars).imp (fun h => Nat.le_of_lt h)
  · intro x hx
    obtain ⟨se, hse, rfl⟩ := List.mem_map.1 hx
    exact spansOf_nosep isSep chars se hse
  · intro k c hk hc
    obtain ⟨se, hse, h1, h2⟩ := spansOf_cover isSep chars k c hk hc
    exact ⟨_, List.mem_map.2 ⟨se, hse, rfl⟩, h1, h2⟩
  · intro x hx
    obtain ⟨se, hse, rfl⟩ := List.mem_map.1 hx
    have hb := spansOf_bounds isSep chars se hse
    constructor
    · intro hq; simp [hq]
    · intro hq
      simp only [hq, Bool.not_true, Bool.false_or, decide_eq_false_iff_not]
      omega

theorem spanInv_strip (isAl isSep : Nat → Bool) (hsep : ∀ c, isSep c = true → isAl c = false)
    (query : Bool) (chars : List Nat) (xs : List Span) (h : SplitInv isSep query chars xs) :
    SpanInv isAl isSep query chars
      ((xs.map (stripSpan (fun c => !isAl c) chars)).filter (fun x => decide (x.lo < x.hi))) := by
  have mem : ∀ y, y ∈ (xs.map (stripSpan (fun c => !isAl c) chars)).filter (fun x => decide (x.lo < x.hi)) →
      ∃ x ∈ xs, y = stripSpan (fun c => !isAl c) chars x ∧ y.lo < y.hi := by
    intro y hy
    obtain ⟨hy1, hy2⟩ := List.mem_filter.1 hy
    obtain ⟨x, hx, rfl⟩ := List.mem_map.1 hy1
    exact ⟨x, hx, rfl, of_decide_eq_true hy2⟩
  refine ⟨?_, ?_, ?_, ?_, ?_, ?_, ?_⟩
  · intro y hy
    obtain ⟨x, hx, rfl, hlt⟩ := mem y hy
    exact ⟨hlt, Nat.le_trans (stripSpan_hi_le ..) (h.bounds x hx).2⟩
  · refine List.Pairwise.filter _ (List.pairwise_map.2 (h.ordered.imp ?_))
    intro a b hab
    exact Nat.le_trans (stripSpan_hi_le ..) (Nat.le_trans hab (stripSpan_lo_le ..))
  · intro y hy k h1 h2
    obtain ⟨x, hx, rfl, _⟩ := mem y hy
    exact h.no_sep x hx k (Nat.le_trans (stripSpan_lo_le ..) h1) (Nat.lt_of_lt_of_le h2 (stripSpan_hi_le ..))
  · intro y hy
    obtain ⟨x, hx, rfl, hlt⟩ := mem y hy
    obtain ⟨c, hc, hp⟩ := stripSpan_first (h.bounds x hx).2 hlt
    exact ⟨c, hc, (Bool.not_eq_false' _).mp hp⟩
  · intro y hy
    obtain ⟨x, hx, rfl, hlt⟩ := mem y hy
    obtain ⟨c, hc, hp⟩ := stripSpan_last (h.bounds x hx).2 hlt
    exact ⟨c, hc, (Bool.not_eq_false' _).mp hp⟩
  · intro k c hk hc
    obtain ⟨x, hx, h1, h2⟩ := h.cover k c hk (Bool.eq_false_iff.2 fun hs => by rw [hsep c hs] at hc; cases hc)
    have hin := stripSpan_keep (p := fun c => !isAl c) h1 h2 hk ((Bool.not_eq_false' _).mpr hc)
    exact ⟨_, List.mem_filter.2 ⟨List.mem_map_of_mem hx, decide_eq_true (Nat.lt_of_le_of_lt hin.1 hin.2)⟩, hin⟩
  · intro y hy
    obtain ⟨x, hx, rfl, _⟩ := mem y hy
    exact (h.fin x hx).strip (h.bounds x hx).2 (stripSpan_hi_le ..) (stripSpan_fin ..)

theorem spanInv_map (isAl isSep : Nat → Bool) (g : Nat → Nat)
    (hal : ∀ c, isAl (g c) = isAl c) (hsep : ∀ c, isSep c = false → isSep (g c) = false)
    (query : Bool) (chars : List Nat) (xs : List Span) (h : SpanInv isAl isSep query chars xs) :
    SpanInv isAl isSep query (chars.map g) xs := by
  refine ⟨?_, h.ordered, ?_, ?_, ?_, ?_, ?_⟩
  · simpa using h.bounds
  · intro x hx k h1 h2
    obtain ⟨c, hc, hs⟩ := h.no_sep x hx k h1 h2
    exact ⟨g c, by simp [hc], hsep c hs⟩
  · intro x hx
    obtain ⟨c, hc, hs⟩ := h.first x hx
    exact ⟨g c, by simp [hc], by rw [hal]; exact hs⟩
  · intro x hx
    obtain ⟨c, hc, hs⟩ := h.last x hx
    exact ⟨g c, by simp [hc], by rw [hal]; exact hs⟩
  · intro k c hk hc
    rw [List.getElem?_map, Option.map_eq_some_iff] at hk
    obtain ⟨c0, hk0, rfl⟩ := hk
    rw [hal] at hc
    exact h.cover k c0 hk0 hc
  · simpa using h.fin

theorem renumber_getElem? (ws : List WordShape) (i : Nat) :
    (renumber ws)[i]? = ws[i]?.map (fun w => { w with offset := i }) := by
  simp only [renumber, List.getElem?_map, List.getElem?_zipIdx]
  cases ws[i]? <;> simp

theorem renumber_length (ws : List WordShape) : (renumber ws).length = ws.length := by
  simp [renumber]

theorem renumber_span (ws : List WordShape) : (renumber ws).map WordShape.span = ws.map WordShape.span := by
  apply List.ext_getElem?
  intro i
  simp only [List.getElem?_map, renumber_getElem?]
  cases ws[i]? <;> rfl

theorem renumber_offsets (ws : List WordShape) :
    (renumber ws).map (·.offset) = List.range ws.length := by
  apply List.ext_getElem?
  intro i
  simp only [List.getElem?_map, renumber_getElem?]
  by_cases h : i < ws.length
  · rw [List.getElem?_range h, List.getElem?_eq_getElem h]; rfl
  · rw [List.getElem?_eq_none (by omega), List.getElem?_eq_none (by simp; omega)]; rfl

theorem split_single (E : Env) (ps : List CharClass) (t : Text) (w0 : WordShape)
    (hw : t.words = [w0]) (hlo : w0.lo = 0) (hhi : w0.hi = t.chars.length) :
    (t.split E ps).words.map WordShape.span = splitSpanList (patMatches E ps) w0.fin t.chars := by
  simp only [Text.split, hw, List.map_cons, List.map_nil, List.flatten_cons, List.flatten_nil,
    List.append_nil, renumber_span]
  simp only [splitWord, hlo, hhi, slice_full, List.map_map, splitSpanList, spansOf, WordShape.len]
  apply List.map_congr_left
  intro se _
  simp [WordShape.span]

theorem strip_spans (E : Env) (ps : List CharClass) (t : Text) :
    (t.strip E ps).words.map WordShape.span =
      ((t.words.map WordShape.span).map (stripSpan (patMatches E ps) t.chars)).filter
        (fun x => decide (x.lo < x.hi)) := by
  simp only [Text.strip, renumber_span]
  rw [List.filter_map, List.map_map, List.filter_map, List.filter_map, List.map_map]
  have e1 : (WordShape.span ∘ stripWord (patMatches E ps) t.chars) =
      (stripSpan (patMatches E ps) t.chars ∘ WordShape.span) := by
    funext w; exact stripWord_span _ _ w
  have e2 : ((fun w : WordShape => decide (w.len > 0)) ∘ stripWord (patMatches E ps) t.chars) =
      (((fun x : Span => decide (x.lo < x.hi)) ∘ stripSpan (patMatches E ps) t.chars) ∘ WordShape.span) := by
    funext w
    have e := stripWord_span (patMatches E ps) t.chars w
    simp only [Function.comp, ← e]
    simp only [WordShape.span, WordShape.len]
    apply decide_eq_decide.2
    omega
  rw [e1, e2]

theorem strip_offsets (E : Env) (ps : List CharClass) (t : Text) :
    (t.strip E ps).words.map (·.offset) = List.range (t.strip E ps).words.length := by
  simp only [Text.strip, renumber_offsets, renumber_length]

theorem setFin_chars (t : Text) (b : Bool) : (t.setFin b).chars = t.chars := rfl

/-- a character that is upper-case after `lower` was not changed by it: the only upper-case characters left are
    those without a lower-case mapping -/
theorem lower_upper_unchanged (E : Env) (K : Consts) (hU : UnicodeFacts E.U K) (t : Text) (k c : Nat)
    (hk : (t.lower E).chars[k]? = some c) (hup : E.U.isUppercase c = true) : t.chars[k]? = some c := by
  simp only [Text.lower, List.getElem?_map, Option.map_eq_some_iff] at hk
  obtain ⟨c0, h0, rfl⟩ := hk
  rw [h0, hU.lower_upper c0 hup]

theorem patMatches_notAlnum (E : Env) :
    patMatches E [CharClass.notAlphaNum] = fun c => !E.U.isAlnum c := by
  funext c
  simp only [patMatches, patMatchesOpt, patMatchesOpt.go, CharClass.matchesOpt]
  cases E.U.isAlnum c <;> rfl

/-- the split pattern of both generated pipelines -/
def sepPat : List CharClass := [CharClass.whitespace, CharClass.control, CharClass.punctuation]

theorem patMatches_sepPat (E : Env) : patMatches E sepPat = isSepChar E.U E.K := by
  funext c
  simp only [sepPat, patMatches, patMatchesOpt, patMatchesOpt.go, CharClass.matchesOpt, isSepChar]
  cases E.U.isWhitespace c <;> cases E.U.isControl c <;> cases E.K.punctuation.contains c <;> rfl

/-! ## the pipelines in closed form -/

/-- the steps that follow `normalize` (and `fin`) in both generated pipelines -/
def tokTail (E : Env) (t : Text) : Text :=
  (((((t.split E sepPat).strip E [CharClass.notAlphaNum]).lower E).setPos E).setCharClasses E).setStem E

theorem tokenizeQuery_src_eq (E : Env) (s : List Nat) :
    tokenizeQuery Gen.srcProg E s = tokTail E (((Text.fromChars s).normalize E).setFin false) := rfl

theorem tokenizeRecord_src_eq (E : Env) (s : List Nat) :
    tokenizeRecord Gen.srcProg E s = tokTail E ((Text.fromChars s).normalize E) := rfl

/-- the spans `split` and `strip` cut the characters `cs` into; `f` is the flag of the one word before `split` -/
def wordSpans (E : Env) (f : Bool) (cs : List Nat) : List Span :=
  ((splitSpanList (isSepChar E.U E.K) f cs).map (stripSpan (fun c => !E.U.isAlnum c) cs)).filter
    (fun x => decide (x.lo < x.hi))

/-- the word that `set_pos` and `set_stem` make of the `i`-th span over the lower-cased characters `low` -/
def Span.toWord (E : Env) (low : List Nat) (x : Span) (i : Nat) : WordShape :=
  { offset := i, lo := x.lo, hi := x.hi,
    stem := if E.T.stemmer then E.stem (slice low x.lo x.hi) else x.hi - x.lo,
    pos := getPos E.T (slice low x.lo x.hi), fin := x.fin }

/-- what `tokTail` makes of one word with flag `f` covering the characters `cs` -/
def tokText (E : Env) (f : Bool) (src cs : List Nat) : Text :=
  { words := (wordSpans E f cs).zipIdx.map (fun p => p.1.toWord E (cs.map E.U.lower1) p.2),
    source := src, chars := cs.map E.U.lower1, classes := (cs.map E.U.lower1).map (classOf E) }

theorem tokText_spans (E : Env) (f : Bool) (src cs : List Nat) :
    (tokText E f src cs).words.map WordShape.span = wordSpans E f cs := by
  simp [tokText, List.map_map, Function.comp_def, Span.toWord, WordShape.span]

theorem tokText_offsets (E : Env) (f : Bool) (src cs : List Nat) :
    (tokText E f src cs).words.map (·.offset) = List.range (tokText E f src cs).words.length := by
  simp [tokText, List.map_map, Function.comp_def, Span.toWord, List.range_eq_range']

theorem tokText_chars_lower_fixed (E : Env) (hU : UnicodeFacts E.U E.K) (f : Bool) (src cs : List Nat) :
    ∀ c ∈ (tokText E f src cs).chars, E.U.lower1 c = c := by
  intro c hc
  obtain ⟨c0, _, rfl⟩ := List.mem_map.1 hc
  exact hU.lower_idem c0

theorem wordSpans_spanInv (E : Env) (hU : UnicodeFacts E.U E.K) (query : Bool) (cs : List Nat) :
    SpanInv E.U.isAlnum (isSepChar E.U E.K) query cs (wordSpans E (!query) cs) :=
  spanInv_strip _ _ hU.sep_not_alnum query cs _ (splitInv_splitSpanList _ query cs)

theorem tokTail_eq (E : Env) (t : Text) (w : WordShape) (hw : t.words = [w]) (hlo : w.lo = 0)
    (hhi : w.hi = t.chars.length) : tokTail E t = tokText E w.fin t.source t.chars := by
  have b1 := strip_spans E [CharClass.notAlphaNum] (t.split E sepPat)
  rw [patMatches_notAlnum, split_single E sepPat t w hw hlo hhi, patMatches_sepPat] at b1
  have e : tokTail E t =
      { words := ((t.split E sepPat).strip E [CharClass.notAlphaNum]).words.map
          (fun w => w.span.toWord E (t.chars.map E.U.lower1) w.offset),
        source := t.source, chars := t.chars.map E.U.lower1,
        classes := (t.chars.map E.U.lower1).map (classOf E) } := by
    simp only [tokTail, Text.setStem, Text.setCharClasses, Text.setPos, Text.lower, List.map_map]
    rfl
  rw [e, map_eq_zipIdx_map WordShape.span (·.offset) _ _ (strip_offsets ..), b1]
  rfl

theorem tokenizeRecord_eq (E : Env) (s : List Nat) :
    tokenizeRecord Gen.srcProg E s = tokText E true (normSource E s) (normChars E s) := by
  rw [tokenizeRecord_src_eq, normalize_fromChars_shape]
  exact tokTail_eq E _ ⟨0, 0, _, _, none, true⟩ rfl rfl rfl

theorem tokenizeQuery_eq (E : Env) (s : List Nat) :
    tokenizeQuery Gen.srcProg E s = tokText E false (normSource E s) (normChars E s) := by
  rw [tokenizeQuery_src_eq, normalize_fromChars_shape]
  exact tokTail_eq E _ ⟨0, 0, _, _, none, false⟩ rfl rfl rfl

open Gen in
theorem tokenizeQuery_chars (E : Env) (s : List Nat) :
    (tokenizeQuery srcProg E s).chars = (normChars E s).map E.U.lower1 := by
  rw [tokenizeQuery_eq]; rfl

open Gen in
theorem tokenizeRecord_chars (E : Env) (s : List Nat) :
    (tokenizeRecord srcProg E s).chars = (normChars E s).map E.U.lower1 := by
  rw [tokenizeRecord_eq]; rfl

theorem tokenizeQuery_classes (E : Env) (s : List Nat) :
    (tokenizeQuery Gen.srcProg E s).classes = (tokenizeQuery Gen.srcProg E s).chars.map (classOf E) := by
  rw [tokenizeQuery_eq]; rfl

theorem tokenizeRecord_classes (E : Env) (s : List Nat) :
    (tokenizeRecord Gen.srcProg E s).classes = (tokenizeRecord Gen.srcProg E s).chars.map (classOf E) := by
  rw [tokenizeRecord_eq]; rfl

theorem class_at_of_char_at (t : Text) (E : Env) (hcl : t.classes = t.chars.map (classOf E)) (i c : Nat)
    (hc : t.chars[i]? = some c) : t.classes[i]? = some (classOf E c) := by
  rw [hcl, List.getElem?_map, hc]; rfl

theorem classOf_not_alnum (E : Env) (c : Nat) (ha : E.U.isAlnum c = false)
    (hT : getCharClass E.T c = none) : classOf E c = CharClass.notAlpha := by
  simp only [Unicode.isAlnum, Bool.or_eq_false_iff] at ha
  simp [classOf, hT, ha.1]

def Span.shift (d : Nat) (x : Span) : Span := ⟨x.lo + d, x.hi + d, x.fin⟩

theorem splitSpanList_append_sep (isSep : Nat → Bool) (f : Bool) (u : List Nat) (sep : Nat) (v : List Nat)
    (hsep : isSep sep = true) :
    splitSpanList isSep f (u ++ sep :: v) =
      splitSpanList isSep true u ++ (splitSpanList isSep f v).map (Span.shift (u.length + 1)) := by
  simp only [splitSpanList, spansOf_append_sep u v hsep, List.map_append, List.map_map]
  congr 1
  · apply List.map_congr_left
    intro x hx
    have := spansOf_bounds isSep u x hx
    simp; right; omega
  · apply List.map_congr_left
    intro x _
    simp only [Span.shift, Function.comp_def, List.length_append, List.length_cons, Span.mk.injEq, true_and]
    congr 2; apply propext; omega

theorem stripSpan_append_left (p : Nat → Bool) (u w : List Nat) (x : Span) (h : x.hi ≤ u.length) :
    stripSpan p (u ++ w) x = stripSpan p u x := by
  simp only [stripSpan, slice_append_left u w x.lo x.hi h]

theorem stripSpan_append_right (p : Nat → Bool) (w v : List Nat) (x : Span) :
    stripSpan p (w ++ v) (x.shift w.length) = (stripSpan p v x).shift w.length := by
  simp only [stripSpan, Span.shift, slice_append_right, Span.mk.injEq, and_true]
  exact ⟨Nat.add_right_comm .., Nat.sub_add_comm (stripRight_slice_le p v x.lo x.hi)⟩

theorem stripSpans_append_right (p : Nat → Bool) (w v : List Nat) (l : List Span) :
    ((l.map (Span.shift w.length)).map (stripSpan p (w ++ v))).filter (fun x => decide (x.lo < x.hi)) =
      ((l.map (stripSpan p v)).filter (fun x => decide (x.lo < x.hi))).map (Span.shift w.length) := by
  induction l with
  | nil => rfl
  | cons x l ih =>
    simp only [List.map_cons, List.filter_cons, stripSpan_append_right, ih]
    simp only [Span.shift, Nat.add_lt_add_iff_right]
    split <;> rfl

theorem wordSpans_append_sep (E : Env) (f : Bool) (u : List Nat) (sep : Nat) (v : List Nat)
    (hsep : isSepChar E.U E.K sep = true) :
    wordSpans E f (u ++ sep :: v) = wordSpans E true u ++ (wordSpans E f v).map (Span.shift (u.length + 1)) := by
  simp only [wordSpans, splitSpanList_append_sep _ f u sep v hsep, List.map_append, List.filter_append]
  congr 1
  · congr 1
    apply List.map_congr_left
    intro x hx
    exact stripSpan_append_left _ u _ x ((splitInv_splitSpanList _ false u).bounds x hx).2
  · have e : u ++ sep :: v = (u ++ [sep]) ++ v := by simp
    have el : u.length + 1 = (u ++ [sep]).length := by simp
    rw [e, el]
    exact stripSpans_append_right _ _ v _


end Lucid
