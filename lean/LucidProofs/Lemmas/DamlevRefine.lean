/-
  LucidProofs.Lemmas.DamlevRefine — the imperative loops of `Lucid.distanceM` (flat `size × size` buffer,
  reused and grown across calls) compute the recursive specification `DL.D`.
  The only thing assumed of the reused matrix is `MInv` (shape, sentinel row/column 0, cell (1,1) = 0);
  every call re-establishes it, so the result never depends on earlier calls.
  All three filling loops (`prepare`'s two borders, the main double loop) are instances of one step: writing the
  specification's value into a fresh cell enlarges the region of cells known to hold `D` (`Filled.set`).
-/
import LucidProofs.Lemmas.DamlevSpec
import LucidProofs.Lemmas.Folds

namespace Lucid
namespace DL

theorem flat_lt (n i j : Nat) {i' : Nat} (hi : i < i') (hj : j < n) : i * n + j < i' * n := by
  have h1 : (i+1) * n ≤ i' * n := Nat.mul_le_mul_right n hi
  have h2 : (i+1) * n = i * n + n := Nat.succ_mul i n
  omega

theorem flat_inj (n i j i' j' : Nat) (hj : j < n) (hj' : j' < n) :
    i * n + j = i' * n + j' ↔ i = i' ∧ j = j' := by
  constructor
  · intro h
    have key : i = i' := by
      rcases Nat.lt_trichotomy i i' with lt | e | gt
      · have := flat_lt n i j lt hj; omega
      · exact e
      · have := flat_lt n i' j' gt hj'; omega
    subst key; exact ⟨rfl, by omega⟩
  · intro ⟨e1, e2⟩; subst e1; subst e2; rfl

structure Sq (m : Mat) (S : Nat) : Prop where
  size : m.size = S
  raw  : m.raw.size = S * S

theorem Sq.set {m : Mat} {S : Nat} (h : Sq m S) (i j v : Nat) : Sq (m.set i j v) S :=
  ⟨h.size, by simpa [Mat.set] using h.raw⟩

/-- the one lemma through which cells are read -/
theorem Sq.get_set {m : Mat} {S : Nat} (h : Sq m S) {i j i' j' : Nat} (v : Nat)
    (hi : i < S) (hj : j < S) (hj' : j' < S) :
    (m.set i j v).get i' j' = if i' = i ∧ j' = j then v else m.get i' j' := by
  obtain ⟨rfl, hw⟩ := h
  have hlt := flat_lt m.size i j hi hj
  unfold Mat.get Mat.set
  simp only [Array.getD_eq_getD_getElem?, Array.getElem?_setIfInBounds]
  by_cases h : i' = i ∧ j' = j
  · obtain ⟨e1, e2⟩ := h; subst e1; subst e2
    simp [hw, hlt]
  · have : ¬ (i * m.size + j = i' * m.size + j') := by
      intro e
      have := (flat_inj m.size i j i' j' hj hj').mp e
      exact h ⟨this.1.symm, this.2.symm⟩
    simp [h, this]

/-- What every call may assume about the reused matrix: shape and sentinels; nothing is said about the other cells. -/
structure MInv (m : Mat) : Prop where
  wf   : m.raw.size = m.size * m.size
  two  : 2 ≤ m.size
  row0 : ∀ j, j < m.size → m.get 0 j = 10 * m.size
  col0 : ∀ i, i < m.size → m.get i 0 = 10 * m.size
  one  : m.get 1 1 = 0

theorem MInv.sq {m : Mat} (h : MInv m) : Sq m m.size := ⟨rfl, h.wf⟩

def initStep1 (m : Mat) (i : Nat) : Mat := (m.set i 0 (10 * m.size)).set 0 i (10 * m.size)
def initStep2 (m : Mat) (i : Nat) : Mat := (m.set i 1 (10 * (i - 1))).set 1 i (10 * (i - 1))

theorem init_eq (m : Mat) (h : m.size ≠ 0) :
    m.init = (List.range' 1 (((List.range m.size).foldl initStep1 m).size - 1)).foldl initStep2
      ((List.range m.size).foldl initStep1 m) := by
  unfold Mat.init; rw [if_neg h]; rfl

theorem init_spec (m : Mat) (S : Nat) (hm : Sq m S) (h2 : 2 ≤ S) : m.init.size = S ∧ MInv m.init := by
  obtain ⟨hs1, hb1⟩ := foldl_ind initStep1 id (List.range m.size)
    (fun k m1 => Sq m1 S ∧ ∀ i, i < k → m1.get i 0 = 10 * S ∧ m1.get 0 i = 10 * S) S m (by simp [hm.size])
    (range_get _) ⟨hm, by intro i hi; omega⟩
    (by
      intro k hk m1 ⟨hs, ih⟩
      have hs' := hs.set k 0 (10 * m1.size)
      refine ⟨hs'.set _ _ _, fun i hi => ?_⟩
      simp (disch := omega) only [initStep1, id, hs'.get_set, hs.get_set]
      rw [hs.size]
      by_cases e : i = k
      · subst e; simp
      · have := ih i (by omega)
        simp [e, this.1, this.2])
  rw [init_eq m (by have := hm.size; omega)]
  generalize (List.range m.size).foldl initStep1 m = m1 at hs1 hb1
  -- the second loop keeps the sentinels; its first round (k = 0) writes `10·(1-1) = 0` into cell (1,1): `MInv.one`
  obtain ⟨hs2, hb2, h11⟩ := foldl_ind initStep2 (· + 1) (List.range' 1 (m1.size - 1))
    (fun k m2 => Sq m2 S ∧ (∀ i, i < S → m2.get i 0 = 10 * S ∧ m2.get 0 i = 10 * S) ∧ (1 ≤ k → m2.get 1 1 = 0))
    (S - 1) m1 (by simp [hs1.size]) (range1_get _) ⟨hs1, hb1, by intro h; omega⟩
    (by
      intro k hk m2 ⟨hs, hb, h11⟩
      have hs' := hs.set (k+1) 1 (10 * (k + 1 - 1))
      refine ⟨hs'.set _ _ _, fun i hi => ?_, fun _ => ?_⟩ <;>
        simp (disch := omega) only [initStep2, hs'.get_set, hs.get_set]
      · have := hb i hi
        simp [this.1, this.2]
      · by_cases e : k = 0
        · subst e; simp
        · have := h11 (by omega)
          simp [e, this])
  generalize (List.range' 1 (m1.size - 1)).foldl initStep2 m1 = m2 at hs2 hb2 h11
  refine ⟨hs2.size, by rw [hs2.size]; exact hs2.raw, by rw [hs2.size]; exact h2, ?_, ?_, h11 (by omega)⟩
  · intro j hj; rw [hs2.size] at hj ⊢; exact (hb2 j hj).2
  · intro i hi; rw [hs2.size] at hi ⊢; exact (hb2 i hi).1

theorem MInv_new (n : Nat) : MInv (Mat.new (n + 2)) ∧ (Mat.new (n + 2)).size = n + 2 := by
  have := init_spec { size := n + 2, raw := Array.replicate ((n + 2) * (n + 2)) 0 } (n + 2) ⟨rfl, by simp⟩ (by omega)
  exact ⟨this.2, this.1⟩

/-! ### growth: `Vec::resize` keeps stale data, `init` repairs the sentinels -/

theorem arrResize_size (a : Array Nat) (n : Nat) : (arrResize a n).size = n := by
  unfold arrResize; split
  · simp; omega
  · simp; omega

theorem grow_spec (m : Mat) (h : MInv m) (need : Nat) : MInv (m.grow need) ∧ need ≤ (m.grow need).size ∧
    m.size ≤ (m.grow need).size := by
  unfold Mat.grow
  split
  · have h2 := h.two
    have := init_spec { size := need + need / 2, raw := arrResize m.raw ((need + need / 2) * (need + need / 2)) }
      (need + need / 2) ⟨rfl, arrResize_size _ _⟩ (by omega)
    simp only [] at this ⊢
    refine ⟨this.2, ?_, ?_⟩ <;> rw [this.1] <;> omega
  · exact ⟨h, by omega, Nat.le_refl _⟩

/-- the matrix is reusable, `S` wide, and every prefix pair `(r, c)` of the region `R` has its distance in cell
    `(r+1, c+1)` -/
structure Filled (K : Consts) (a b : CWord) (S : Nat) (R : Nat → Nat → Prop) (m : Mat) : Prop where
  size : m.size = S
  inv  : MInv m
  cell : ∀ r c, R r c → m.get (r+1) (c+1) = D K a b r c

theorem Filled.mono {K : Consts} {a b : CWord} {S : Nat} {R R' : Nat → Nat → Prop} {m : Mat}
    (h : Filled K a b S R m) (hR : ∀ r c, R' r c → R r c) : Filled K a b S R' m :=
  ⟨h.size, h.inv, fun r c hrc => h.cell r c (hR r c hrc)⟩

/-- The one step of all filling loops: writing `D r0 c0` into the cell of a pair other than `(0, 0)` adds that pair
    to the region; sentinels and the cells filled before are untouched. -/
theorem Filled.set {K : Consts} {a b : CWord} {S : Nat} {R R' : Nat → Nat → Prop} {m : Mat}
    (h : Filled K a b S R m) {r0 c0 v : Nat} (hr : r0 + 1 < S) (hc : c0 + 1 < S) (h0 : r0 + c0 ≠ 0)
    (hv : v = D K a b r0 c0) (hR : ∀ r c, R' r c → c + 1 < S ∧ ((r = r0 ∧ c = c0) ∨ R r c)) :
    Filled K a b S R' (m.set (r0+1) (c0+1) v) := by
  obtain ⟨rfl, hi, hcell⟩ := h
  have sq := hi.sq
  have h2 := hi.two
  refine ⟨rfl, ⟨(sq.set _ _ _).raw, h2, fun j hj => ?_, fun i hi' => ?_, ?_⟩, fun r c hrc => ?_⟩
  · rw [sq.get_set v hr hc hj, if_neg (by omega)]; exact hi.row0 j hj
  · rw [sq.get_set v hr hc (show 0 < m.size by omega), if_neg (by omega)]; exact hi.col0 i hi'
  · rw [sq.get_set v hr hc (show 1 < m.size by omega), if_neg (by omega)]; exact hi.one
  · obtain ⟨hc', hor⟩ := hR r c hrc
    rw [sq.get_set v hr hc hc']
    split
    · rename_i e; rw [hv, Nat.succ.inj e.1, Nat.succ.inj e.2]
    · rename_i e; exact hcell r c (hor.resolve_left fun e' => e ⟨congrArg _ e'.1, congrArg _ e'.2⟩)

/-- the region filled when row `i` of the specification is done up to column `j` (and all rows before it, and
    column 0, completely) -/
def Upto (a b : CWord) (i j r c : Nat) : Prop := r ≤ a.len ∧ c ≤ b.len ∧ (c = 0 ∨ r < i ∨ (r = i ∧ c ≤ j))

theorem Upto.row {a b : CWord} {i j r c : Nat} (hr : r ≤ a.len) (hc : c ≤ b.len) (h : r < i) : Upto a b i j r c :=
  ⟨hr, hc, .inr (.inl h)⟩

theorem Upto.cur {a b : CWord} {i j c : Nat} (hi : i ≤ a.len) (hc : c ≤ b.len) (h : c ≤ j) : Upto a b i j i c :=
  ⟨hi, hc, .inr (.inr ⟨rfl, h⟩)⟩

theorem Upto.of_succ {a b : CWord} {i j r c : Nat} (h : Upto a b i (j+1) r c) :
    (r = i ∧ c = j + 1) ∨ Upto a b i j r c := by
  unfold Upto at *; omega

def prepStep1 (m : Mat) (p : Nat × Nat) : Mat := m.set (p.2 + 2) 1 (m.get (p.2 + 1) 1 + p.1)
def prepStep2 (m : Mat) (p : Nat × Nat) : Mat := m.set 1 (p.2 + 2) (m.get 1 (p.2 + 1) + p.1)

theorem prepare_eq (m : Mat) (c1 c2 : List Nat) :
    m.prepare c1 c2 = c2.zipIdx.foldl prepStep2
      (c1.zipIdx.foldl prepStep1 (m.grow (max (c1.length + 2) (c2.length + 2)))) := rfl

theorem prepare_filled (K : Consts) (a b : CWord) (ha : Aligned a) (hb : Aligned b) (m : Mat) (h : MInv m) :
    Filled K a b (m.prepare a.cost b.cost).size (Upto a b 0 b.len) (m.prepare a.cost b.cost) ∧
    a.len + 2 ≤ (m.prepare a.cost b.cost).size ∧ b.len + 2 ≤ (m.prepare a.cost b.cost).size ∧
    m.size ≤ (m.prepare a.cost b.cost).size := by
  rw [prepare_eq]
  obtain ⟨hg, hneed, hmono⟩ := grow_spec m h (max (a.cost.length + 2) (b.cost.length + 2))
  generalize m.grow (max (a.cost.length + 2) (b.cost.length + 2)) = m0 at hg hneed hmono
  have hla : a.len = a.cost.length := ha.symm
  have hlb : b.len = b.cost.length := hb.symm
  have hna : a.cost.length + 2 ≤ m0.size := Nat.le_trans (Nat.le_max_left _ _) hneed
  have hnb : b.cost.length + 2 ≤ m0.size := Nat.le_trans (Nat.le_max_right _ _) hneed
  clear hneed ha hb
  -- first loop: column border
  have h1 := foldl_ind prepStep1 (fun k => (a.cost.getD k 0, k)) a.cost.zipIdx
    (fun k m1 => Filled K a b m0.size (fun r c => c = 0 ∧ r ≤ k) m1) a.cost.length m0 (by simp) (zipIdx_get _)
    ⟨rfl, hg, by rintro r c ⟨rfl, hr⟩; obtain rfl : r = 0 := by omega
                 simpa [D_zero_zero] using hg.one⟩
    (fun k hk m1 h1 => h1.set (r0 := k+1) (c0 := 0) (by omega) (by omega) (by omega)
      (by rw [D_succ_zero, ← h1.cell k 0 ⟨rfl, Nat.le_refl k⟩]; rfl) (fun r c hrc => by omega))
  generalize a.cost.zipIdx.foldl prepStep1 m0 = m1 at h1
  -- second loop: row border
  have h2 := foldl_ind prepStep2 (fun k => (b.cost.getD k 0, k)) b.cost.zipIdx
    (fun k m2 => Filled K a b m0.size (Upto a b 0 k) m2) b.cost.length m1 (by simp) (zipIdx_get _)
    (h1.mono (fun r c hrc => by unfold Upto at hrc; omega))
    (fun k hk m2 h2 => h2.set (r0 := 0) (c0 := k+1) (by omega) (by omega) (by omega)
      (by rw [D_zero_succ, ← h2.cell 0 k (.cur (Nat.zero_le _) (by omega) (Nat.le_refl k))]; rfl)
      (fun r c hrc => ⟨by have := hrc.2.1; omega, hrc.of_succ⟩))
  generalize b.cost.zipIdx.foldl prepStep2 m1 = m2 at h2
  exact ⟨hlb ▸ h2.size ▸ h2, hla ▸ h2.size ▸ hna, hlb ▸ h2.size ▸ hnb, h2.size ▸ hmono⟩

theorem dlInner_eq (K : Consts) (a b : CWord) (i1 : Nat) (last : List (Nat × Nat)) (m : Mat) (l2 i2 : Nat) :
    dlInner K a b i1 last (m, l2) i2 =
      (m.set (i1 + 2) (i2 + 2)
        (cellVal K a b i1 i2 (lastGet last (b.c i2)) l2 (m.get (i1 + 2) (i2 + 1)) (m.get (i1 + 1) (i2 + 2))
          (m.get (i1 + 1) (i2 + 1)) (m.get (lastGet last (b.c i2)) l2)),
       if a.c i1 == b.c i2 then i2 + 1 else l2) := rfl

theorem lastGet_cons (l : List (Nat × Nat)) (x p c : Nat) :
    lastGet ((x, p) :: l) c = if x = c then p else lastGet l c := by
  unfold lastGet
  by_cases e : x = c
  · simp [e]
  · simp [e]

/-- The two indices the loops carry are the specification's last occurrences, whatever the matrix holds. -/
theorem dlInner_snd (K : Consts) (a b : CWord) (i j : Nat) (last : List (Nat × Nat)) (st : Mat × Nat)
    (hl2 : st.2 = lastOcc b.ch j (a.c i)) : (dlInner K a b i last st j).2 = lastOcc b.ch (j+1) (a.c i) := by
  obtain ⟨m, l2⟩ := st
  show (if a.c i == b.c j then j+1 else l2) = lastOcc b.ch (j+1) (a.c i)
  rw [lastOcc, show l2 = _ from hl2]
  have : b.c j = b.ch.getD j 0 := rfl
  by_cases e : a.c i = b.c j
  · rw [if_pos (by simp [e]), if_pos (by rw [← this]; exact e.symm)]
  · rw [if_neg (by simp [e]), if_neg (by rw [← this]; exact fun h => e h.symm)]

theorem dlOuter_snd (K : Consts) (a b : CWord) (i : Nat) (st : Mat × List (Nat × Nat))
    (hlast : ∀ c, lastGet st.2 c = lastOcc a.ch i c) (c : Nat) :
    lastGet (dlOuter K a b st i).2 c = lastOcc a.ch (i+1) c := by
  show lastGet ((a.c i, i + 1) :: st.2) c = _
  rw [lastGet_cons, lastOcc, hlast]
  rfl

theorem min4_sentinel (x y z t B : Nat) (hz : z ≤ B) (ht : B ≤ t) : min4 x y z t = min (min x y) z := by
  unfold min4; rw [Nat.min_eq_left (Nat.le_trans hz ht)]

/-- The cell the inner loop writes at `(i, j)` is the specification's: its three neighbours and the transposition
    cell are filled already; when there is no transposition candidate the cell read is a sentinel, which never
    wins because of `D_le`. -/
theorem inner_step (K : Consts) (a b : CWord) (ha : CostLe a) (hb : CostLe b)
    (S i j : Nat) (hSa : a.len + 2 ≤ S) (hSb : b.len + 2 ≤ S) (hi : i < a.len) (hj : j < b.len)
    (last : List (Nat × Nat)) (hlast : ∀ c, lastGet last c = lastOcc a.ch i c)
    (st : Mat × Nat) (h : Filled K a b S (Upto a b (i+1) j) st.1) (hl2 : st.2 = lastOcc b.ch j (a.c i)) :
    Filled K a b S (Upto a b (i+1) (j+1)) (dlInner K a b i last st j).1 := by
  obtain ⟨m, l2⟩ := st
  simp only [] at h hl2
  have hl1 : lastOcc a.ch i (b.c j) < S := by have := lastOcc_le a.ch i (b.c j); omega
  have hl2' : lastOcc b.ch j (a.c i) < S := by have := lastOcc_le b.ch j (a.c i); omega
  rw [dlInner_eq, hlast]
  refine h.set (r0 := i+1) (c0 := j+1) (by omega) (by omega) (Nat.succ_ne_zero _) ?_
    (fun r c hrc => ⟨by have := hrc.2.1; omega, hrc.of_succ⟩)
  rw [h.cell (i+1) j (.cur hi (Nat.le_of_lt hj) (Nat.le_refl j)),
    h.cell i (j+1) (.row (Nat.le_of_lt hi) hj (Nat.lt_succ_self i)),
    h.cell i j (.row (Nat.le_of_lt hi) (Nat.le_of_lt hj) (Nat.lt_succ_self i)), hl2, D_succ_succ]
  split
  · rename_i hz
    have hs : m.get (lastOcc a.ch i (b.c j)) (lastOcc b.ch j (a.c i)) = 10 * S := by
      rcases hz with e | e
      · rw [e, ← h.size]; exact h.inv.row0 _ (h.size ▸ hl2')
      · rw [e, ← h.size]; exact h.inv.col0 _ (h.size ▸ hl1)
    have hb0 := D_le K a b ha hb i j
    have hsub := sub_le a b ha hb i j
    rw [hs]; exact min4_sentinel _ _ _ _ (10*S) (by clear hz; omega) (Nat.le_add_left _ _)
  · rename_i hz
    have hl1le := lastOcc_le a.ch i (b.c j)
    have hl2le := lastOcc_le b.ch j (a.c i)
    have n1 : lastOcc a.ch i (b.c j) ≠ 0 := fun e => hz (.inl e)
    have n2 : lastOcc b.ch j (a.c i) ≠ 0 := fun e => hz (.inr e)
    clear hz
    rw [← h.cell (lastOcc a.ch i (b.c j) - 1) (lastOcc b.ch j (a.c i) - 1) (.row (by omega) (by omega) (by omega)),
      Nat.sub_add_cancel (Nat.pos_of_ne_zero n1), Nat.sub_add_cancel (Nat.pos_of_ne_zero n2)]

theorem outer_step (K : Consts) (a b : CWord) (ha : CostLe a) (hb : CostLe b)
    (S i : Nat) (hSa : a.len + 2 ≤ S) (hSb : b.len + 2 ≤ S) (hi : i < a.len)
    (st : Mat × List (Nat × Nat)) (h : Filled K a b S (Upto a b i b.len) st.1)
    (hlast : ∀ c, lastGet st.2 c = lastOcc a.ch i c) :
    Filled K a b S (Upto a b (i+1) b.len) (dlOuter K a b st i).1 :=
  (foldl_ind (dlInner K a b i st.2) id (List.range b.len)
    (fun j s => Filled K a b S (Upto a b (i+1) j) s.1 ∧ s.2 = lastOcc b.ch j (a.c i)) b.len (st.1, 0) (by simp)
    (range_get _) ⟨h.mono (fun r c hrc => by unfold Upto at *; omega), rfl⟩
    (fun j hj s hs => ⟨inner_step K a b ha hb S i j hSa hSb hi hj st.2 hlast s hs.1 hs.2,
      dlInner_snd K a b i j st.2 s hs.2⟩)).1

/-- Refinement: whatever the reused matrix held before (only `MInv` is assumed), `distanceM` returns the
    specification's distance, leaves in every prefix cell the specification's distance of those prefixes,
    and re-establishes `MInv`. -/
theorem distance_refines (K : Consts) (a b : CWord) (ha : Aligned a) (hb : Aligned b)
    (hca : CostLe a) (hcb : CostLe b) (m : Mat) (h : MInv m) :
    (distanceM K m a b).1 = D K a b a.len b.len ∧
    MInv (distanceM K m a b).2 ∧
    (∀ i j, i ≤ a.len → j ≤ b.len → (distanceM K m a b).2.get (i+1) (j+1) = D K a b i j) ∧
    m.size ≤ (distanceM K m a b).2.size := by
  obtain ⟨h0, hSa, hSb, hmono⟩ := prepare_filled K a b ha hb m h
  obtain ⟨hr, _⟩ := foldl_ind (dlOuter K a b) id (List.range a.len)
    (fun i st => Filled K a b (m.prepare a.cost b.cost).size (Upto a b i b.len) st.1 ∧
      ∀ c, lastGet st.2 c = lastOcc a.ch i c)
    a.len (m.prepare a.cost b.cost, []) (by simp) (range_get _) ⟨h0, by intro c; simp [lastOcc, lastGet]⟩
    (fun i hi st hst => ⟨outer_step K a b hca hcb _ i hSa hSb hi st hst.1 hst.2, dlOuter_snd K a b i st hst.2⟩)
  have hcell : ∀ i j, i ≤ a.len → j ≤ b.len → (distanceM K m a b).2.get (i+1) (j+1) = D K a b i j :=
    fun i j hi hj => hr.cell i j (by unfold Upto; omega)
  exact ⟨hcell _ _ (Nat.le_refl _) (Nat.le_refl _), hr.inv, hcell, by unfold distanceM; rw [hr.size]; exact hmono⟩

/-! ### history independence -/

def runCalls (K : Consts) : Mat → List (CWord × CWord) → List Nat × Mat
  | m, [] => ([], m)
  | m, (a, b) :: rest =>
    let r := distanceM K m a b
    let rs := runCalls K r.2 rest
    (r.1 :: rs.1, rs.2)

def CallsOK (calls : List (CWord × CWord)) : Prop :=
  ∀ p ∈ calls, Aligned p.1 ∧ Aligned p.2 ∧ CostLe p.1 ∧ CostLe p.2

theorem runCalls_spec (K : Consts) (calls : List (CWord × CWord)) (hc : CallsOK calls) :
    ∀ m, MInv m → (runCalls K m calls).1 = calls.map (fun p => D K p.1 p.2 p.1.len p.2.len) ∧
      MInv (runCalls K m calls).2 := by
  induction calls with
  | nil => intro m h; exact ⟨rfl, h⟩
  | cons p rest ih =>
    intro m h
    obtain ⟨a, b⟩ := p
    obtain ⟨ha, hb, hca, hcb⟩ := hc (a, b) (by simp)
    obtain ⟨e, hi, _, _⟩ := distance_refines K a b ha hb hca hcb m h
    have := ih (fun q hq => hc q (by simp [hq])) (distanceM K m a b).2 hi
    refine ⟨?_, this.2⟩
    show (distanceM K m a b).1 :: (runCalls K (distanceM K m a b).2 rest).1 = _
    rw [this.1, e]; rfl

end DL
end Lucid
