/-
  LucidProofs.Lemmas.RankShapes — the order on hits and `text_match` on hand-specified titles and queries (for C08,
  documented ranking priorities). `text_match` is computed on the shapes C08 uses — query words that are typed text
  (`Typed`, `hitM`: `Lemmas/Gates.lean`) for some title words and foreign to others — by running the scan forward
  (`Lemmas/TextMatchScan.lean`, last section). A foreign word cannot match: words over disjoint alphabets are stopped
  by the Jaccard gate (`wordMatch_disjoint_none`, given `JACCARD_THRESHOLD ≤ 1`). The joined-record-words closure may
  fire on a foreign first word all the same; the two matches it then leaves are worth at most `|q| - 2` characters
  (`join_chars_lt`), so that hit loses on the character score, the first in the order.
-/
import LucidProofs.Lemmas.Gates
import LucidProofs.Lemmas.TextMatchScan

namespace Lucid
open DL

/-! ## the order on hits -/

/-- `a` is strictly before `b` in the lexicographic order the hits are sorted by -/
def StrictBefore (a b : List Int) : Prop := scoresLe a b = true ∧ scoresLe b a = false

/-- hit `h1` is strictly before hit `h2` in the order the results are sorted by -/
def Outranks (h1 h2 : Hit) : Prop := hitLe h1 h2 = true ∧ hitLe h2 h1 = false

theorem strict_cons_eq {a b : Int} {as bs : List Int} (h : a = b) (ht : StrictBefore as bs) :
    StrictBefore (a :: as) (b :: bs) := by
  subst h
  simpa [StrictBefore, scoresLe] using ht

theorem strict_cons_gt {a b : Int} {as bs : List Int} (h : b < a) : StrictBefore (a :: as) (b :: bs) := by
  have h1 : a ≠ b := by omega
  have h2 : b ≠ a := by omega
  have h3 : ¬ a < b := by omega
  simp [StrictBefore, scoresLe, h1, h2, h, h3]

theorem outranks_iff (K : Consts) (order : List ScoreType) (q : Text) (r1 r2 : Record) :
    Outranks (scoreHit K order q r1) (scoreHit K order q r2) ↔
      StrictBefore (order.map (scoreOf r1.title r1.rating (textMatch K r1.title q).1))
        (order.map (scoreOf r2.title r2.rating (textMatch K r2.title q).1)) := Iff.rfl

/-! ## words over disjoint alphabets never match -/

/-- the Jaccard threshold is at most 1 -/
def JacCapOK (K : Consts) : Bool := decide (K.jacNum ≤ K.jacDen)

theorem jacCapOK_src : JacCapOK Gen.srcConsts = true := by decide

theorem interCard_disjoint (a b : List Nat) (h : ∀ c ∈ a, c ∉ b) : interCard a b = 0 := by
  unfold interCard
  rw [List.length_eq_zero_iff, List.filter_eq_nil_iff]
  intro x hx
  simpa using h x (mem_natSet.mp hx)

theorem mem_jaccardSlice {rt : Text} {r q : WordShape} {c : Nat} (h : c ∈ jaccardSlice rt r q) : c ∈ wchars rt r := by
  unfold jaccardSlice at h
  split at h
  · exact h
  · exact List.mem_of_mem_take h

theorem jaccardCheck_disjoint (K : Consts) (hJ : JacCapOK K = true) (rt : Text) (r : WordShape) (qt : Text)
    (q : WordShape) (hne : wchars qt q ≠ []) (hdis : ∀ c ∈ wchars rt r, c ∉ wchars qt q) :
    jaccardCheck K rt r qt q = false := by
  have hJ' : K.jacNum ≤ K.jacDen := by simpa [JacCapOK] using hJ
  rw [← Bool.not_eq_true, jaccardCheck_iff, Nat.not_lt]
  by_cases ha : jaccardSlice rt r q = []
  · rw [ha, jaccard_nil_left hne]
    exact Nat.mul_le_mul_right _ hJ'
  · rw [jaccard_of_ne_nil ha hne, interCard_disjoint _ _ (fun c hc => hdis c (mem_jaccardSlice hc))]
    exact Nat.mul_le_mul_right _ hJ'

theorem wordMatch_disjoint_none (K : Consts) (hJ : JacCapOK K = true) (rt : Text) (r : WordShape) (qt : Text)
    (q : WordShape) (hq : WordIn qt q) (hdis : ∀ c ∈ wchars rt r, c ∉ wchars qt q) :
    wordMatch K rt r qt q = none := by
  have hj := jaccardCheck_disjoint K hJ rt r qt q (wchars_ne_nil hq) hdis
  rw [wordMatch, wordMatchM_eq, if_neg fun h => Bool.noConfusion (hj.symm.trans h.2.2.2)]

/-! ## `text_match` on the shapes of C08 -/

theorem textMatch_one (K : Consts) (hK : CostsOK K = true) (hN : GateNumsOK K = true) (rt qt : Text) (w v : WordShape)
    (hrt : TextOK rt) (hqt : TextOK qt) (hrw : rt.words = [w]) (hqw : qt.words = [v]) (ht : Typed rt w qt v) :
    (textMatch K rt qt).1 = [hitM K w v] := by
  have hw : w ∈ rt.words := by simp [hrw]
  have hv : v ∈ qt.words := by simp [hqw]
  rw [textMatch_single_of_textOK K hrt hqt hrw hqw,
    wordMatch_hit K hK hN (hrt.wordIn hw) (hqt.wordIn hv) ht]
  rfl

/-- a record word that the query word is typed text for is not joined with its successor across a gap: the joined
    word would be longer than the query word -/
theorem tryJoinR_none_of_typed (K : Consts) {rt qt : Text} (hrt : TextOK rt) (hqt : TextOK qt) (s : TMState)
    {r rnext q : WordShape} (hr : r ∈ rt.words) (hq : q ∈ qt.words) (hn : rt.words[r.offset + 1]? = some rnext)
    (hgap : r.hi < rnext.lo) (ht : Typed rt r qt q) : tryJoinR K rt qt s r q = none := by
  have hle := ht.len_le (hrt.wordIn hr) (hqt.wordIn hq)
  have hd := dist_of_gap (hrt.bounds r hr).1 (hrt.bounds rnext (hrt.next hr hn).1).1 hgap
  exact tryJoinR_none_of_short K rt qt s r q rnext hn (by omega)

section twoOne
variable (K : Consts) (hK : CostsOK K = true) (hN : GateNumsOK K = true) (rt qt : Text) (a b v : WordShape)
  (hrt : TextOK rt) (hqt : TextOK qt) (hrw : rt.words = [a, b]) (hqw : qt.words = [v]) (hgap : a.hi < b.lo)

include hK hN hrt hqt hrw hqw hgap in
theorem textMatch_two_first (ht : Typed rt a qt v) (hf : isFunc K a.pos = false) :
    (textMatch K rt qt).1 = [hitM K a v] := by
  obtain ⟨ha0, hb1⟩ := offsets2 hrt hrw
  have hv0 := offsets1 hqt hqw
  have haIn : a ∈ rt.words := by simp [hrw]
  have hvIn : v ∈ qt.words := by simp [hqw]
  rw [textMatch_eq]
  simp only [hqw, List.foldl_cons, List.foldl_nil]
  rw [tmQuery_hit (pre := []) hrw (by simp [tmInit, isSet, hqw, hv0]) rfl (by simp) (by simp [tmInit, isSet, hrw, ha0])
    (tryJoinR_none_of_typed K hrt hqt _ haIn hvIn (by simp [hrw, ha0]) hgap ht)
    (tryJoinQ_none_of_last K rt qt _ a v (by simp [hqw, hv0]))
    (wordMatch_hit K hK hN (hrt.wordIn haIn) (hqt.wordIn hvIn) ht) (.inl (by simp [newPair, hf]))]
  simp [tmInit, hrw, hqw, setAt, newPair, ha0, hv0, hitM]

end twoOne

/-! ## score vectors (in the generated order) of one / two exact matches -/

theorem scores_single (K : Consts) (w v : WordShape) (title : Text) (rating : Nat) :
    Gen.srcScoreOrder.map (scoreOf title rating [hitM K w v]) =
      [(v.len : Int), (if isFunc K w.pos then 0 else 1), - ((w.len - v.len : Nat) : Int), 0,
       (if (v.fin || decide (w.len = v.len)) then 1 else 0), - (w.offset : Int), (rating : Int),
       - (title.words.length : Int), - (((title.words.map (·.len)).sum : Nat) : Int)] := by
  simp only [Gen.srcScoreOrder, List.map, scoreOf, scoreChars, scoreWords, scoreTails, scoreTrans, transCount,
    scoreFin, scoreOffset, hitM_matchLen, hitM_typos, hitM_func, hitM_wordLen, hitM_fin, hitM_offset, ceilTenths,
    List.sum_cons, List.sum_nil, List.filter, List.getLast?_singleton, List.min?_singleton, Option.getD_some]
  cases isFunc K w.pos <;> simp

theorem scores_pair (K : Consts) (w1 v1 w2 v2 : WordShape) (title : Text) (rating : Nat) :
    Gen.srcScoreOrder.map (scoreOf title rating [hitM K w1 v1, hitM K w2 v2]) =
      [(v1.len : Int) + v2.len, (((if isFunc K w1.pos then 0 else 1) + (if isFunc K w2.pos then 0 else 1) : Nat) : Int),
       - (((w1.len - v1.len) + (w2.len - v2.len) : Nat) : Int),
       - (((if w1.offset + 1 > w2.offset then w1.offset + 1 - w2.offset else 0) +
           (if w1.offset + 1 < w2.offset then w2.offset - w1.offset - 1 else 0) : Nat) : Int),
       (if (v2.fin || decide (w2.len = v2.len)) then 1 else 0), - ((min w1.offset w2.offset : Nat) : Int), (rating : Int),
       - (title.words.length : Int), - (((title.words.map (·.len)).sum : Nat) : Int)] := by
  simp only [Gen.srcScoreOrder, List.map, scoreOf, scoreChars, scoreWords, scoreTails, scoreTrans, transCount,
    scoreFin, scoreOffset, hitM_matchLen, hitM_typos, hitM_func, hitM_wordLen, hitM_offset, ceilTenths,
    List.sum_cons, List.sum_nil, List.filter]
  cases isFunc K w1.pos <;> cases isFunc K w2.pos <;> simp <;> rfl

/-! ## the joined-record-words closure on a foreign first word -/

theorem splitTypos_fst_pos (t l1 l2 : Nat) (ht : 1 ≤ t) (h1 : 1 ≤ l1) (h2 : 1 ≤ l2) : 1 ≤ (splitTypos t l1 l2).1 := by
  unfold splitTypos
  rw [if_neg (by omega), if_neg (by omega)]
  simp only []
  have hp : 1 ≤ t * l1 := Nat.mul_pos ht h1
  exact Nat.div_pos (by omega) (by omega)

/-- the two halves of a match of length `S ≤ n + 1` split at a gap (`a < b < c`: the bounds of the first word and
    the start of the second), the first half carrying a positive typo count (`typos` is in tenths), are worth at most `n - 2` characters -/
theorem scoreChars_split_le {m1 m2 : WMatch} {a b c S n : Nat} (e1 : m1.matchLen = b - a)
    (e2 : m2.matchLen = S - (c - a)) (ht : 1 ≤ m1.typos) (h1 : a < b) (h2 : b < c) (hg : c < a + S)
    (hn : S ≤ n + 1) : scoreChars [m1, m2] + 2 ≤ (n : Int) := by
  simp only [scoreChars, List.map, List.sum_cons, List.sum_nil, e1, e2, ceilTenths]
  omega

theorem join_chars_lt (K : Consts) (hK : CostsOK K = true) {rt qt : Text} (hrt : TextOK rt) (hqt : TextOK qt)
    {r rnext q : WordShape} (hr : r ∈ rt.words) (hq : q ∈ qt.words) (hn : rt.words[r.offset + 1]? = some rnext)
    (hgap : r.hi < rnext.lo) (hdis : ∀ c ∈ wchars rt r, c ∉ wchars qt q)
    {p rs : WMatch × WMatch} (hm : wordMatch K rt (r.join rnext) qt q = some p)
    (hs : p.1.split K r rnext = some rs) :
    rs.1.offset = r.offset ∧ rs.2.offset = rnext.offset ∧ scoreChars [rs.1, rs.2] + 2 ≤ (q.len : Int) := by
  obtain ⟨hjw, hjs⟩ := hrt.join_wordIn hr hn
  have hqw := hqt.wordIn hq
  have hrw := hrt.wordIn hr
  obtain ⟨_, _, rsl, qsl, acc, rfl, _⟩ := wordMatch_some hK hjw hqw hm
  obtain ⟨hg, rfl⟩ := split_eq_some.mp hs
  -- the distance is positive: the first characters differ
  have hD : 1 ≤ sliceDist K rt (r.join rnext) qt q qsl rsl := by
    apply Nat.pos_of_ne_zero
    intro e
    have h0 := ((sliceDist_eq_zero_iff hK hjw hqw acc.q_le acc.r_le).mp e).2 0
      (Nat.lt_of_lt_of_le (hqt.stems q hq) acc.stem)
    have hj0 : (wchars rt (r.join rnext)).getD 0 0 = (wchars rt r).getD 0 0 := by
      unfold wchars
      rw [slice_getD_zero _ _ _ hjw.1, slice_getD_zero _ _ _ hrw.1]
      rfl
    rw [hj0] at h0
    exact hdis _ (getD_zero_mem (wchars_ne_nil hrw)) (h0 ▸ getD_zero_mem (wchars_ne_nil hqw))
  exact ⟨rfl, rfl, scoreChars_split_le (a := r.lo) (b := r.hi) (c := rnext.lo) (S := rsl) rfl rfl
    (splitTypos_fst_pos _ _ _ hD hrw.len_pos (hrt.wordIn (hrt.next hr hn).1).len_pos) hrw.1 hgap hg
    (Nat.le_trans acc.near.1 (Nat.add_le_add_right acc.q_le 1))⟩

/-- the last query word `v` scanned over record words ending in a foreign filler `x` and a word `u` that `v` is typed
    text for: `u` gets the exact match, unless the joined-record-words closure fired on `x` (`join_chars_lt`) -/
theorem tmQuery_filler_typed (K : Consts) (hK : CostsOK K = true) (hN : GateNumsOK K = true) (hJ : JacCapOK K = true)
    {rt qt : Text} (hrt : TextOK rt) (hqt : TextOK qt) {pre : List WordShape} {x u v : WordShape} {s : TMState}
    (hrw : rt.words = pre ++ [x, u]) (hv : v ∈ qt.words) (hvlast : qt.words[v.offset + 1]? = none)
    (hq : isSet s.qm v.offset = false) (hc : s.cand = none) (hpre : ∀ y ∈ pre, Passes K rt qt v s y)
    (hx : isSet s.rm x.offset = false) (hu : isSet s.rm u.offset = false)
    (hgap : x.hi < u.lo) (hdis : ∀ c ∈ wchars rt x, c ∉ wchars qt v) (ht : Typed rt u qt v) :
    (tmQuery K rt qt s v).rm = setAt s.rm u.offset (hitM K u v) ∨
    ∃ r1 r2, (tmQuery K rt qt s v).rm = setAt (setAt s.rm x.offset r1) u.offset r2 ∧
      scoreChars [r1, r2] + 2 ≤ (v.len : Int) := by
  obtain ⟨ox, hxIn⟩ := hrt.offsetsOK.offset_of_get (i := pre.length) (w := x) (by simp [hrw])
  obtain ⟨ou, huIn⟩ := hrt.offsetsOK.offset_of_get (i := pre.length + 1) (w := u) (by simp [hrw])
  have hn : rt.words[x.offset + 1]? = some u := by simp [hrw, ox]
  have hjq : ∀ r, tryJoinQ K rt qt s r v = none := fun r => tryJoinQ_none_of_last K rt qt s r v hvlast
  cases hj : tryJoinR K rt qt s x v with
  | none =>
    left
    rw [tmQuery_hit (pre := pre ++ [x]) (post := []) (by simp [hrw]) hq hc
      (List.forall_mem_append.2 ⟨hpre, List.forall_mem_singleton.2
        (.inr ⟨hj, hjq x, wordMatch_disjoint_none K hJ rt x qt v (hqt.wordIn hv) hdis⟩)⟩)
      hu (tryJoinR_none_of_last K rt qt s u v (by simp [hrw, ou])) (hjq u)
      (wordMatch_hit K hK hN (hrt.wordIn huIn) (hqt.wordIn hv) ht) (.inr rfl)]
    rfl
  | some s' =>
    right
    rw [tmQuery_joinR (pre := pre) hrw hq hc hpre hx hj]
    obtain ⟨rnext, p, rs, hn', _, _, hwm, hsp, rfl⟩ := tryJoinR_eq_some.mp hj
    cases hn.symm.trans hn'
    obtain ⟨o1, o2, hsc⟩ := join_chars_lt K hK hrt hqt hxIn hv hn hgap hdis hwm hsp
    exact ⟨rs.1, rs.2, by rw [o1, o2], hsc⟩

section twoOneLate
variable (K : Consts) (hK : CostsOK K = true) (hN : GateNumsOK K = true) (hJ : JacCapOK K = true)
  (rt qt : Text) (a b v : WordShape)
  (hrt : TextOK rt) (hqt : TextOK qt) (hrw : rt.words = [a, b]) (hqw : qt.words = [v]) (hgap : a.hi < b.lo)

include hK hN hJ hrt hqt hrw hqw hgap in
/-- title `[a, b]` with a foreign filler `a`, query `[v]` typed for `b`: the match of `b` alone, or (second case) the
    joined-record-words closure fired on `a` (`join_chars_lt`) -/
theorem textMatch_two_second (hdis : ∀ c ∈ wchars rt a, c ∉ wchars qt v) (ht : Typed rt b qt v) :
    (textMatch K rt qt).1 = [hitM K b v] ∨
    ∃ r1 r2, (textMatch K rt qt).1 = [r1, r2] ∧ scoreChars [r1, r2] + 2 ≤ (v.len : Int) := by
  obtain ⟨ha0, hb1⟩ := offsets2 hrt hrw
  have hv0 := offsets1 hqt hqw
  rw [textMatch_eq]
  simp only [hqw, List.foldl_cons, List.foldl_nil]
  rcases tmQuery_filler_typed K hK hN hJ hrt hqt (pre := []) (s := tmInit rt qt) hrw (by simp [hqw])
    (by simp [hqw, hv0]) (isSet_replicate _ _) rfl (by simp) (isSet_replicate _ _) (isSet_replicate _ _) hgap hdis
    ht with e | ⟨r1, r2, e, hsc⟩
  · left
    rw [e]
    simp [tmInit, hrw, setAt, hb1]
  · right
    refine ⟨r1, r2, ?_, hsc⟩
    rw [e]
    simp [tmInit, hrw, setAt, ha0, hb1]

end twoOneLate

/-! ### two-word query `[q1, q2]` (first word finished) against a title of two or three words -/

theorem textMatch_first (K : Consts) (hK : CostsOK K = true) (hN : GateNumsOK K = true) {rt qt : Text}
    {a b q1 q2 : WordShape} {rest : List WordShape} (hrt : TextOK rt) (hqt : TextOK qt)
    (hrw : rt.words = a :: b :: rest) (hqw : qt.words = [q1, q2]) (hgap : a.hi < b.lo) (hqgap : q1.hi < q2.lo)
    (hfin1 : q1.fin = true) (ht1 : Typed rt a qt q1) (hfa : isFunc K a.pos = false) :
    (textMatch K rt qt).1 = ((tmQuery K rt qt
      { rm := some (hitM K a q1) :: none :: List.replicate rest.length none,
        qm := [some (newPair K a q1 q1.len q1.len 0).2, none], cand := none } q2).rm.filterMap id) := by
  have ha0 : a.offset = 0 := by simpa [hrw] using hrt.offsets 0 (by simp [hrw])
  obtain ⟨hq10, hq21⟩ := offsets2 hqt hqw
  have haIn : a ∈ rt.words := by simp [hrw]
  have hq1In : q1 ∈ qt.words := by simp [hqw]
  have hq2In : q2 ∈ qt.words := by simp [hqw]
  have hle := ht1.len_eq hfin1 (hrt.wordIn haIn) (hqt.wordIn hq1In)
  have hdq := dist_of_gap (hqt.bounds q1 hq1In).1 (hqt.bounds q2 hq2In).1 hqgap
  rw [textMatch_eq]
  simp only [hqw, List.foldl_cons, List.foldl_nil]
  rw [tmQuery_hit (pre := []) hrw (isSet_replicate _ _) rfl (by simp) (isSet_replicate _ _)
    (tryJoinR_none_of_typed K hrt hqt _ haIn hq1In (by simp [hrw, ha0]) hgap ht1)
    (tryJoinQ_none_of_short K rt qt _ a q1 q2 (by simp [hqw, hq10]) (by omega))
    (wordMatch_hit K hK hN (hrt.wordIn haIn) (hqt.wordIn hq1In) ht1)
    (.inl (by simp [newPair, hfa]))]
  simp [tmInit, hrw, hqw, setAt, newPair, ha0, hq10, hitM, List.replicate_succ]

section twoTwo
variable (K : Consts) (hK : CostsOK K = true) (hN : GateNumsOK K = true) (hJ : JacCapOK K = true)
  (rt qt : Text) (a b q1 q2 : WordShape)
  (hrt : TextOK rt) (hqt : TextOK qt) (hrw : rt.words = [a, b]) (hqw : qt.words = [q1, q2])
  (hgap : a.hi < b.lo) (hqgap : q1.hi < q2.lo) (hfin1 : q1.fin = true)
  (ht1 : Typed rt a qt q1) (hfa : isFunc K a.pos = false)

include hK hN hrt hqt hrw hqw hgap hqgap hfin1 ht1 hfa in
theorem textMatch_twoTwo_both (ht2 : Typed rt b qt q2) :
    (textMatch K rt qt).1 = [hitM K a q1, hitM K b q2] := by
  obtain ⟨ha0, hb1⟩ := offsets2 hrt hrw
  obtain ⟨hq10, hq21⟩ := offsets2 hqt hqw
  have hbIn : b ∈ rt.words := by simp [hrw]
  have hq2In : q2 ∈ qt.words := by simp [hqw]
  rw [textMatch_first K hK hN hrt hqt hrw hqw hgap hqgap hfin1 ht1 hfa,
    tmQuery_hit (pre := [a]) (post := []) hrw (by simp [isSet, hq21]) rfl (by simp [Passes, isSet, ha0])
      (by simp [isSet, hb1]) (tryJoinR_none_of_last K rt qt _ b q2 (by simp [hrw, hb1]))
      (tryJoinQ_none_of_last K rt qt _ b q2 (by simp [hqw, hq21]))
      (wordMatch_hit K hK hN (hrt.wordIn hbIn) (hqt.wordIn hq2In) ht2) (.inr rfl)]
  simp [setAt, newPair, hb1, hq21, hitM]

include hK hN hJ hrt hqt hrw hqw hgap hqgap hfin1 ht1 hfa in
theorem textMatch_twoTwo_first_only (hdis : ∀ c ∈ wchars rt b, c ∉ wchars qt q2) :
    (textMatch K rt qt).1 = [hitM K a q1] := by
  obtain ⟨ha0, hb1⟩ := offsets2 hrt hrw
  obtain ⟨hq10, hq21⟩ := offsets2 hqt hqw
  have hq2In : q2 ∈ qt.words := by simp [hqw]
  rw [textMatch_first K hK hN hrt hqt hrw hqw hgap hqgap hfin1 ht1 hfa,
    tmQuery_none (by simp [isSet, hq21]) rfl (by
      simp only [hrw, List.mem_cons, List.not_mem_nil, or_false, forall_eq_or_imp, forall_eq]
      exact ⟨.inl (by simp [isSet, ha0]), .inr ⟨tryJoinR_none_of_last K rt qt _ b q2 (by simp [hrw, hb1]),
        tryJoinQ_none_of_last K rt qt _ b q2 (by simp [hqw, hq21]),
        wordMatch_disjoint_none K hJ rt b qt q2 (hqt.wordIn hq2In) hdis⟩⟩)]
  rfl

end twoTwo

section threeTwo
variable (K : Consts) (hK : CostsOK K = true) (hN : GateNumsOK K = true) (hJ : JacCapOK K = true)
  (rt qt : Text) (a b c q1 q2 : WordShape)
  (hrt : TextOK rt) (hqt : TextOK qt) (hrw : rt.words = [a, b, c]) (hqw : qt.words = [q1, q2])
  (hgap : a.hi < b.lo) (hgap' : b.hi < c.lo) (hqgap : q1.hi < q2.lo) (hfin1 : q1.fin = true)
  (ht1 : Typed rt a qt q1) (hfa : isFunc K a.pos = false)

include hK hN hrt hqt hrw hqw hgap hgap' hqgap hfin1 ht1 hfa in
theorem textMatch_threeTwo_adjacent (ht2 : Typed rt b qt q2) (hfb : isFunc K b.pos = false) :
    (textMatch K rt qt).1 = [hitM K a q1, hitM K b q2] := by
  obtain ⟨ha0, hb1, hc2⟩ := offsets3 hrt hrw
  obtain ⟨hq10, hq21⟩ := offsets2 hqt hqw
  have hbIn : b ∈ rt.words := by simp [hrw]
  have hq2In : q2 ∈ qt.words := by simp [hqw]
  rw [textMatch_first K hK hN hrt hqt hrw hqw hgap hqgap hfin1 ht1 hfa,
    tmQuery_hit (pre := [a]) (post := [c]) hrw (by simp [isSet, hq21]) rfl (by simp [Passes, isSet, ha0])
      (by simp [isSet, hb1]) (tryJoinR_none_of_typed K hrt hqt _ hbIn hq2In (by simp [hrw, hb1]) hgap' ht2)
      (tryJoinQ_none_of_last K rt qt _ b q2 (by simp [hqw, hq21]))
      (wordMatch_hit K hK hN (hrt.wordIn hbIn) (hqt.wordIn hq2In) ht2)
      (.inl (by simp [newPair, hfb]))]
  simp [setAt, newPair, hb1, hq21, hitM]

include hK hN hJ hrt hqt hrw hqw hgap hgap' hqgap hfin1 ht1 hfa in
/-- title `[a, b, c]` with a foreign filler `b`, query `[q1, q2]` typed for `a` and `c`: the two exact matches, or
    (second case) the joined-record-words closure fired on the filler `b` (`join_chars_lt`) -/
theorem textMatch_threeTwo_gap (hdis : ∀ ch ∈ wchars rt b, ch ∉ wchars qt q2) (ht2 : Typed rt c qt q2) :
    (textMatch K rt qt).1 = [hitM K a q1, hitM K c q2] ∨
    ∃ r1 r2, (textMatch K rt qt).1 = [hitM K a q1, r1, r2] ∧ scoreChars [r1, r2] + 2 ≤ (q2.len : Int) := by
  obtain ⟨ha0, hb1, hc2⟩ := offsets3 hrt hrw
  obtain ⟨hq10, hq21⟩ := offsets2 hqt hqw
  rw [textMatch_first K hK hN hrt hqt hrw hqw hgap hqgap hfin1 ht1 hfa]
  simp only [List.length_singleton, List.replicate_one]
  rcases tmQuery_filler_typed K hK hN hJ hrt hqt (pre := [a])
    (s := ⟨[some (hitM K a q1), none, none], [some (newPair K a q1 q1.len q1.len 0).2, none], none⟩) hrw
    (by simp [hqw]) (by simp [hqw, hq21]) (by simp [isSet, hq21]) rfl (by simpa using .inl (by simp [isSet, ha0]))
    (by simp [isSet, hb1]) (by simp [isSet, hc2]) hgap' hdis ht2 with e | ⟨r1, r2, e, hsc⟩
  · left
    rw [e]
    simp [setAt, hc2]
  · right
    refine ⟨r1, r2, ?_, hsc⟩
    rw [e]
    simp [setAt, hb1, hc2]

end threeTwo

/-! ## a different word that is not longer scores fewer characters -/

theorem scoreChars_one_lt {m : WMatch} {n : Nat} (hle : m.matchLen ≤ n) (h : m.typos = 0 → m.matchLen < n) :
    scoreChars [m] < (n : Int) := by
  simp only [scoreChars, List.map, List.sum_cons, List.sum_nil, ceilTenths]
  omega

theorem typo_chars_lt (K : Consts) (hK : CostsOK K = true) {rt qt : Text} {w v : WordShape}
    (hr : WordIn rt w) (hq : WordIn qt v) (hle : w.len ≤ v.len) (hne : wchars rt w ≠ wchars qt v)
    {p : WMatch × WMatch} (h : wordMatch K rt w qt v = some p) : scoreChars [p.1] < (v.len : Int) := by
  obtain ⟨_, _, rs, qs, acc, rfl, _⟩ := wordMatch_some hK hr hq h
  refine scoreChars_one_lt (Nat.le_trans acc.r_le hle) fun hD =>
    Nat.lt_of_le_of_ne (Nat.le_trans acc.r_le hle) fun (e : rs = v.len) => ?_
  -- no typos on the whole of `v`: the two words are equal
  obtain ⟨rfl, hz⟩ := (sliceDist_eq_zero_iff hK hr hq acc.q_le acc.r_le).mp hD
  have e2 : w.len = v.len := Nat.le_antisymm hle (e ▸ acc.r_le)
  exact hne ((prefix_eq_iff (cword K qt v) (cword K rt w)).mp
    ⟨by rw [cword_len_of_wordIn K hq, cword_len_of_wordIn K hr, e2],
      fun k hk => hz k (by rw [cword_len_of_wordIn K hq, ← e] at hk; exact hk)⟩).symm

end Lucid
