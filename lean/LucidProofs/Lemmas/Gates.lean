/-
  LucidProofs.Lemmas.Gates — the two gates of `word_match` (`matching/word.rs`, model `Lucid.wordMatch`), one
  lemma per gate with the thresholds and the sizes as variables (`lengthCheck_of_eq`, `lengthCheck_of_near`,
  `jaccard_pass`), and what they give for (a) an unfinished query word that is a prefix of the record word, (b) a
  finished query word equal to the record word.
  `Typed rt w qt v` ("the query word is typed text for the record word") is the union of (a) and (b); for it
  `word_match` returns the zero-typo pair on the typed characters (`wordMatch_hit`; `hitM` is its record half).
  Numeric hypotheses: `CostsOK K` (edit costs) and `GateNumsOK K` (thresholds), both decided at `Gen.srcConsts`.
-/
import LucidProofs.Lemmas.Jaccard
import LucidProofs.Lemmas.PairOK

namespace Lucid
open DL

/-- what the gates need of the thresholds: `0 < LENGTH_THRESHOLD`, `1/2 < JACCARD_THRESHOLD`, `0 < JACCARD_THRESHOLD` -/
def GateNumsOK (K : Consts) : Bool :=
  decide (0 < K.lenNum) && decide (K.jacDen * 1 < K.jacNum * 2) && decide (0 < K.jacNum)

theorem gateNumsOK_src : GateNumsOK Gen.srcConsts = true := by decide

theorem gateNumsOK_spec {K : Consts} (h : GateNumsOK K = true) :
    0 < K.lenNum ∧ K.jacDen < K.jacNum * 2 ∧ 0 < K.jacNum := by
  simp only [GateNumsOK, Bool.and_eq_true, decide_eq_true_eq] at h
  omega

theorem lengthCheck_of_eq (K : Consts) (hN : GateNumsOK K = true) (r q : WordShape)
    (hr : (if q.fin then r.len else min q.len r.len) = q.len) : lengthCheck K r q = true := by
  obtain ⟨h1, _, _⟩ := gateNumsOK_spec hN
  unfold lengthCheck
  simp only []
  rw [hr]
  simp only [Nat.max_self, Nat.min_self, Nat.sub_self, Nat.mul_zero, Bool.or_self, beq_self_eq_true]
  split
  · rfl
  · rename_i h
    simp only [decide_eq_true_eq, Nat.not_le] at h ⊢
    exact Nat.mul_pos h1 (by omega)

theorem lengthCheck_prefix (K : Consts) (hN : GateNumsOK K = true) (r q : WordShape)
    (hfin : q.fin = false) (hle : q.len ≤ r.len) : lengthCheck K r q = true :=
  lengthCheck_of_eq K hN r q (by simp [hfin, Nat.min_eq_left hle])

theorem lengthCheck_equal (K : Consts) (hN : GateNumsOK K = true) (r q : WordShape)
    (hlen : q.len = r.len) : lengthCheck K r q = true :=
  lengthCheck_of_eq K hN r q (by split <;> simp [hlen])

/-- length gate: effective lengths ≥ 2 that differ by at most one pass if one character in `m` is tolerated and a
    difference only occurs from length `m` on -/
theorem lengthCheck_of_near (K : Consts) (m : Nat) (hK : K.lenDen < K.lenNum * m) (r q : WordShape)
    (hq : 2 ≤ q.len) (hr : 2 ≤ r.len) (h1 : q.len ≤ r.len + 1) (h2 : r.len ≤ q.len + 1)
    (hm : r.len < q.len ∨ (q.fin = true ∧ q.len < r.len) → m ≤ max q.len r.len) : lengthCheck K r q = true := by
  -- the test on `q.len` and an effective record length `rlen`
  have key : ∀ rlen, 2 ≤ rlen → q.len ≤ rlen + 1 → rlen ≤ q.len + 1 →
      (q.len ≠ rlen → m ≤ max q.len rlen) →
      (if (decide (q.len ≤ 1) || decide (rlen ≤ 1)) = true then q.len == rlen
        else decide (K.lenDen * (max q.len rlen - min q.len rlen) < K.lenNum * max q.len rlen)) = true := by
    intro rlen h2 h3 h4 h5
    rw [if_neg (by simp only [Bool.or_eq_true, decide_eq_true_eq]; omega), decide_eq_true_eq]
    by_cases e : q.len = rlen
    · rw [e, Nat.max_self, Nat.min_self, Nat.sub_self, Nat.mul_zero]
      exact Nat.mul_pos (Nat.pos_of_ne_zero fun h0 => by rw [h0, Nat.zero_mul] at hK; omega) (by omega)
    · rw [(by omega : max q.len rlen - min q.len rlen = 1), Nat.mul_one]
      exact Nat.lt_of_lt_of_le hK (Nat.mul_le_mul_left _ (h5 e))
  unfold lengthCheck
  by_cases hf : q.fin = true
  · simp only [hf, if_true]
    exact key _ hr h1 h2 fun e => hm (by rcases Nat.lt_or_gt_of_ne e with h | h; exact .inr ⟨hf, h⟩; exact .inl h)
  · simp only [hf, Bool.false_eq_true, if_false]
    -- an unfinished query word sees the record word cut to its own length
    rcases Nat.le_total q.len r.len with h | h
    · rw [Nat.min_eq_left h]; exact key _ hq (Nat.le_succ _) (Nat.le_succ _) fun e => absurd rfl e
    · rw [Nat.min_eq_right h]
      exact key _ hr h1 h2 fun e => hm (.inl (Nat.lt_of_le_of_ne h (Ne.symm e)))

theorem distinctCard_pos {a : List Nat} (h : a ≠ []) : 1 ≤ distinctCard a := by
  unfold distinctCard
  have : natSet a ≠ [] := fun e => h (natSet_eq_nil.mp e)
  exact List.length_pos_iff.mpr this

theorem diffCard_le_one (a b : List Nat) (c : Nat) (h : ∀ z, z ∈ a → z ∉ b → z = c) :
    ((natSet a).filter (· ∉ b)).length ≤ 1 := by
  have hc : ∀ z ∈ (natSet a).filter (· ∉ b), z = c := fun z hz => by
    obtain ⟨hz1, hz2⟩ := List.mem_filter.mp hz
    exact h z (mem_natSet.mp hz1) (by simpa using hz2)
  -- a duplicate-free list all of whose members are `c` is `replicate n c` with `n ≤ 1`
  exact List.nodup_replicate.mp (List.eq_replicate_iff.mpr ⟨rfl, hc⟩ ▸ (natSet_nodup a).sublist List.filter_sublist)

theorem diffCard_eq_zero (a b : List Nat) (h : ∀ z, z ∈ a → z ∈ b) : ((natSet a).filter (· ∉ b)).length = 0 := by
  rw [List.length_eq_zero_iff, List.filter_eq_nil_iff]
  intro z hz; simpa using h z (mem_natSet.mp hz)

theorem jaccard_half (K : Consts) (hK : K.jacDen < K.jacNum * 2) {i u : Nat} (hu : 0 < u) (h : 2 * (u - i) ≤ u) :
    K.jacDen * (u - i) < K.jacNum * u := by
  have h1 : K.jacDen * (u - i) * 2 ≤ K.jacDen * u := by
    rw [Nat.mul_assoc]; exact Nat.mul_le_mul_left _ (by omega)
  have h2 : K.jacDen * u < K.jacNum * u * 2 := by
    rw [Nat.mul_right_comm]; exact Nat.mul_lt_mul_of_pos_right hK hu
  omega

/-- Jaccard gate over sets: `a` has at most `da` distinct characters missing from `b`, `b` at most `db` missing
    from `a`; with a threshold above 1/2 the two lists pass if what is lost is at most half of the union, that is
    `2·da + db ≤ |set a|` (or the same with the roles exchanged) -/
theorem jaccard_pass (K : Consts) (hK : K.jacDen < K.jacNum * 2) (a b : List Nat) (ha : a ≠ []) (hb : b ≠ [])
    (da db : Nat) (hda : ((natSet a).filter (· ∉ b)).length ≤ da) (hdb : ((natSet b).filter (· ∉ a)).length ≤ db)
    (h : 2 * da + db ≤ distinctCard a ∨ da + 2 * db ≤ distinctCard b) :
    K.jacDen * ((jaccard a b).2 - (jaccard a b).1) < K.jacNum * (jaccard a b).2 := by
  rw [jaccard_of_ne_nil ha hb]
  have hincl := interCard_add_unionCard a b
  have hua := unionCard_eq a b
  have hub := unionCard_eq b a
  rw [unionCard_comm b a] at hub
  have := distinctCard_pos ha
  unfold distinctCard at *
  exact jaccard_half K hK (by omega) (by omega)

theorem jaccardSlice_full (rt : Text) (r q : WordShape) (hlen : (wchars rt r).length = r.len)
    (h2 : r.len ≤ q.len + 1) : jaccardSlice rt r q = wchars rt r := by
  unfold jaccardSlice; split
  · rfl
  · apply List.take_of_length_le; omega

theorem jaccardCheck_iff (K : Consts) (rt : Text) (r : WordShape) (qt : Text) (q : WordShape) :
    jaccardCheck K rt r qt q = true ↔
      K.jacDen * ((jaccard (jaccardSlice rt r q) (wchars qt q)).2 - (jaccard (jaccardSlice rt r q) (wchars qt q)).1) <
        K.jacNum * (jaccard (jaccardSlice rt r q) (wchars qt q)).2 := by
  unfold jaccardCheck
  exact decide_eq_true_iff

theorem jaccardCheck_prefix (K : Consts) (hN : GateNumsOK K = true) (rt : Text) (r : WordShape) (qt : Text)
    (q : WordShape) (hfin : q.fin = false) (hA : wchars qt q ≠ []) (hle : q.len ≤ r.len)
    (hpre : wchars qt q = (wchars rt r).take q.len) : jaccardCheck K rt r qt q = true := by
  -- the slice is the query word followed by at most one more character
  obtain ⟨e, hsl, he⟩ : ∃ e : List Nat, jaccardSlice rt r q = wchars qt q ++ e ∧ e.length ≤ 1 := by
    refine ⟨((wchars rt r).drop q.len).take (min (q.len + 1) r.len - q.len), ?_, ?_⟩
    · unfold jaccardSlice
      simp only [hfin, Bool.false_eq_true, if_false]
      rw [hpre]
      have : min (q.len + 1) r.len = q.len + (min (q.len + 1) r.len - q.len) := by omega
      conv => lhs; rw [this, List.take_add]
    · simp only [List.length_take]; omega
  exact (jaccardCheck_iff K rt r qt q).mpr <|
    jaccard_pass K (gateNumsOK_spec hN).2.1 (jaccardSlice rt r q) (wchars qt q) (by rw [hsl]; simp [hA]) hA 1 0
    (diffCard_le_one _ _ (e.headD 0) (by
      intro z hz hz'
      rw [hsl, List.mem_append] at hz
      match e, he, hz.resolve_left hz' with
      | [c], _, h => simpa using h))
    (Nat.le_of_eq (diffCard_eq_zero _ _ (by intro z hz; rw [hsl]; exact List.mem_append_left _ hz)))
    (Or.inr (distinctCard_pos hA))

theorem jaccardCheck_equal (K : Consts) (hN : GateNumsOK K = true) (rt : Text) (r : WordShape) (qt : Text)
    (q : WordShape) (hfin : q.fin = true) (hne : wchars qt q ≠ [])
    (heq : wchars qt q = wchars rt r) : jaccardCheck K rt r qt q = true := by
  have hs : jaccardSlice rt r q = wchars qt q := by
    unfold jaccardSlice; simp [hfin, heq]
  rw [jaccardCheck_iff, hs]
  exact jaccard_pass K (gateNumsOK_spec hN).2.1 _ _ hne hne 0 0
    (Nat.le_of_eq (diffCard_eq_zero _ _ fun _ h => h)) (Nat.le_of_eq (diffCard_eq_zero _ _ fun _ h => h))
    (Or.inl (Nat.zero_le _))

section exactEqual
variable (rt : Text) (w : WordShape) (qt : Text) (v : WordShape)
  (hr : WordIn rt w) (hq : WordIn qt v) (heq : wchars qt v = wchars rt w)

include hr hq heq in
theorem equal_len : v.len = w.len := by rw [← wchars_length hq, ← wchars_length hr, heq]

include hq heq in
theorem equal_pre : wchars qt v = (wchars rt w).take v.len := by
  rw [← heq, List.take_of_length_le]
  rw [wchars_length hq]; exact Nat.le_refl _

end exactEqual

/-- the query word `v` is typed text for the record word `w`: an unfinished prefix of it, or the finished whole
    word; stems within the words -/
def Typed (rt : Text) (w : WordShape) (qt : Text) (v : WordShape) : Prop :=
  v.stem ≤ v.len ∧
  ((v.fin = false ∧ wchars qt v = (wchars rt w).take v.len) ∨
   (v.fin = true ∧ wchars qt v = wchars rt w ∧ w.stem ≤ w.len))

theorem Typed.pre {rt qt : Text} {w v : WordShape} (h : Typed rt w qt v) (hq : WordIn qt v) :
    wchars qt v = (wchars rt w).take v.len := by
  rcases h.2 with ⟨_, h⟩ | ⟨_, h, _⟩
  · exact h
  · exact equal_pre rt w qt v hq h

theorem Typed.len_le {rt qt : Text} {w v : WordShape} (h : Typed rt w qt v) (hr : WordIn rt w) (hq : WordIn qt v) :
    v.len ≤ w.len := prefix_len_le rt w qt v hr hq (h.pre hq)

theorem Typed.len_eq {rt qt : Text} {w v : WordShape} (h : Typed rt w qt v) (hfin : v.fin = true)
    (hr : WordIn rt w) (hq : WordIn qt v) : v.len = w.len := by
  rcases h.2 with ⟨h, _⟩ | ⟨_, h, _⟩
  · rw [hfin] at h; cases h
  · exact equal_len rt w qt v hr hq h

theorem Typed.of_prefix {rt rt' qt : Text} {w w' v : WordShape} (h : Typed rt w qt v) (hr : WordIn rt w)
    (hq : WordIn qt v) (hunfin : v.fin = false) (hpre : wchars rt w = (wchars rt' w').take w.len) :
    Typed rt' w' qt v :=
  ⟨h.1, .inl ⟨hunfin, by rw [h.pre hq, hpre, List.take_take, Nat.min_eq_left (h.len_le hr hq)]⟩⟩

def hitM (K : Consts) (w v : WordShape) : WMatch := (newPair K w v v.len v.len 0).1

@[simp] theorem hitM_offset (K : Consts) (w v : WordShape) : (hitM K w v).offset = w.offset := rfl
@[simp] theorem hitM_matchLen (K : Consts) (w v : WordShape) : (hitM K w v).matchLen = v.len := rfl
@[simp] theorem hitM_wordLen (K : Consts) (w v : WordShape) : (hitM K w v).wordLen = w.len := rfl
@[simp] theorem hitM_typos (K : Consts) (w v : WordShape) : (hitM K w v).typos = 0 := rfl
@[simp] theorem hitM_func (K : Consts) (w v : WordShape) : (hitM K w v).func = isFunc K w.pos := rfl
@[simp] theorem hitM_fin (K : Consts) (w v : WordShape) : (hitM K w v).fin = (v.fin || decide (w.len = v.len)) := rfl

theorem wordMatch_hit (K : Consts) (hK : CostsOK K = true) (hN : GateNumsOK K = true) {rt qt : Text} {w v : WordShape}
    (hr : WordIn rt w) (hq : WordIn qt v) (ht : Typed rt w qt v) :
    wordMatch K rt w qt v = some (newPair K w v v.len v.len 0) := by
  obtain ⟨hs2, h | h⟩ := ht
  · obtain ⟨hfin, hpre⟩ := h
    have hle := prefix_len_le rt w qt v hr hq hpre
    exact wordMatch_exact_prefix_some K hK rt w qt v hr hq hpre hfin hs2
      (lengthCheck_prefix K hN w v hfin hle)
      (jaccardCheck_prefix K hN rt w qt v hfin (wchars_ne_nil hq) hle hpre)
  · obtain ⟨hfin, heq, hws⟩ := h
    have hlen := equal_len rt w qt v hr hq heq
    have hvl := hq.len_pos
    exact wordMatch_diag_of_prefix K hK rt w qt v hr hq (equal_pre rt w qt v hq heq)
      (lengthCheck_equal K hN w v hlen) (jaccardCheck_equal K hN rt w qt v hfin (wchars_ne_nil hq) heq) hs2
      (by simp only [wmLeftRaw, hfin, if_true]; omega) (fun h => by have := h.2; omega)

theorem wordMatch_prefix_ne_none (K : Consts) (hK : CostsOK K = true) (hN : GateNumsOK K = true)
    (rt : Text) (r : WordShape) (qt : Text) (q : WordShape) (hr : WordIn rt r) (hq : WordIn qt q)
    (hfin : q.fin = false) (hstem : q.stem ≤ q.len)
    (hpre : wchars qt q = (wchars rt r).take q.len) :
    wordMatch K rt r qt q ≠ none := by
  rw [wordMatch_hit K hK hN hr hq ⟨hstem, .inl ⟨hfin, hpre⟩⟩]
  exact Option.some_ne_none _

/-- equal words, the query word finished or not: both are cases of `Typed`. (A finished query word that is a
    *proper* prefix is not: the length and Jaccard gates then compare the whole record word.) -/
theorem wordMatch_equal_ne_none (K : Consts) (hK : CostsOK K = true) (hN : GateNumsOK K = true)
    (rt : Text) (r : WordShape) (qt : Text) (q : WordShape) (hr : WordIn rt r) (hq : WordIn qt q)
    (hqs : q.stem ≤ q.len) (hrs : r.stem ≤ r.len) (heq : wchars qt q = wchars rt r) :
    wordMatch K rt r qt q ≠ none := by
  have ht : Typed rt r qt q := ⟨hqs, by
    cases hfin : q.fin
    · exact .inl ⟨rfl, equal_pre rt r qt q hq heq⟩
    · exact .inr ⟨rfl, heq, hrs⟩⟩
  rw [wordMatch_hit K hK hN hr hq ht]
  exact Option.some_ne_none _

end Lucid
