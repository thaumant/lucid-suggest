/-
  LucidProofs.Lemmas.Store — the store as a state machine (`store/store.rs`, `search/mod.rs`):
  operations, the "freshly constructed store" (`Store.fresh` / `Store.rebuild`), the invariant `StoreInv`
  that ties the trigram index and the `top_ixs` cache to the record list, and its preservation.
  Then what a search reads of a store: `Store.listed`, the records behind the results (`search_eq_listed`), a
  `TopK` selection from the candidate records `Store.candRecs` (`listed_TopK`, the statement `Locality` builds on);
  and the empty query (C12), which lists the top-rated records `Store.cand` with their plain titles.
-/
import LucidModel.Search
import LucidProofs.Lemmas.Index
import LucidProofs.Lemmas.SearchGlue

namespace Lucid

/-- the mutating entry points of `Store` plus `search` (which may fill the `top_ixs` cache) -/
inductive StoreOp where
  | add (id : Nat) (title : Text) (rating : Nat)
  | clear
  | setLimit (n : Nat)
  | setDividers (l r : List Nat)
  | search (q : Text)
deriving Repr, DecidableEq

/-- run one operation; a search returns its results elsewhere, here only the store after the call -/
def Store.apply (S : Sorter) (K : Consts) (order : List ScoreType) (st : Store) : StoreOp → Store
  | .add id title rating => st.add id title rating
  | .clear => st.clear
  | .setLimit n => st.setLimit n
  | .setDividers l r => st.setDividers l r
  | .search q => (st.searchM S K order q).2

def Store.run (S : Sorter) (K : Consts) (order : List ScoreType) (st : Store) (ops : List StoreOp) : Store :=
  ops.foldl (Store.apply S K order) st

def Store.addAll (st : Store) (rs : List (Nat × Text × Nat)) : Store :=
  rs.foldl (fun s r => s.add r.1 r.2.1 r.2.2) st

/-- a newly constructed store: `Store::new()`, then the limit, the markers, then every record in order -/
def Store.fresh (K : Consts) (limit : Nat) (dividers : List Nat × List Nat) (rs : List (Nat × Text × Nat)) : Store :=
  (((Store.new K).setLimit limit).setDividers dividers.1 dividers.2).addAll rs

/-- what the caller supplied for a record: `(id, title, rating)` (the position `ix` is assigned by the store) -/
def Record.data (r : Record) : Nat × Text × Nat := (r.id, r.title, r.rating)

/-- the newly constructed store holding the same records in the same order, the same limit and markers -/
def Store.rebuild (K : Consts) (st : Store) : Store :=
  Store.fresh K st.limit st.dividers (st.records.map Record.data)

/-- the selection that `top_ixs` caches for limit `lim` -/
def topList (S : Sorter) (K : Consts) (lim : Nat) (rs : List Record) : List Nat :=
  (limitSort (S.sort topLe) K.sortFactor lim rs).map (·.ix)

/-- invariant of every reachable store -/
structure StoreInv (S : Sorter) (K : Consts) (st : Store) : Prop where
  nextIx : st.nextIx = st.records.length
  ixPos  : ∀ (i : Nat) (h : i < st.records.length), (st.records[i]).ix = i
  index  : st.index = (Store.rebuild K st).index
  cache  : st.topIxs = none ∨
           ∃ lim, st.topIxs = some (lim, (limitSort (S.sort topLe) K.sortFactor lim st.records).map (·.ix))

def mkRecords (n : Nat) : List (Nat × Text × Nat) → List Record
  | [] => []
  | r :: rs => { ix := n, id := r.1, title := r.2.1, rating := r.2.2 } :: mkRecords (n + 1) rs

/-! ### `mkRecords`, `addAll`, the fresh store: closed forms -/

theorem mkRecords_eq (n : Nat) (rs : List (Nat × Text × Nat)) :
    mkRecords n rs = (rs.zipIdx n).map (fun p => ⟨p.2, p.1.1, p.1.2.1, p.1.2.2⟩) := by
  induction rs generalizing n with
  | nil => rfl
  | cons r rs ih => simp [mkRecords, ih]

theorem mkRecords_length (n : Nat) (rs : List (Nat × Text × Nat)) : (mkRecords n rs).length = rs.length := by
  simp [mkRecords_eq]

theorem mkRecords_ix (n : Nat) (rs : List (Nat × Text × Nat)) (i : Nat) (hi : i < (mkRecords n rs).length) :
    ((mkRecords n rs)[i]).ix = n + i := by
  simp [mkRecords_eq]

theorem mkRecords_map_data (n : Nat) (rs : List (Nat × Text × Nat)) : (mkRecords n rs).map Record.data = rs := by
  simp [mkRecords_eq, Record.data, Function.comp_def]

theorem mkRecords_data (n : Nat) (rs : List Record)
    (h : ∀ (i : Nat) (hi : i < rs.length), (rs[i]).ix = n + i) : mkRecords n (rs.map Record.data) = rs := by
  apply List.ext_getElem (by simp [mkRecords_eq])
  intro i _ h2
  simp only [mkRecords_eq, List.getElem_map, List.getElem_zipIdx, Record.data, ← h i h2]

@[simp] theorem addAll_nil (st : Store) : st.addAll [] = st := rfl
@[simp] theorem addAll_cons (st : Store) (r : Nat × Text × Nat) (rs : List (Nat × Text × Nat)) :
    st.addAll (r :: rs) = (st.add r.1 r.2.1 r.2.2).addAll rs := rfl

theorem addAll_eq (st : Store) (rs : List (Nat × Text × Nat)) :
    st.addAll rs = { st with
      nextIx := st.nextIx + rs.length
      records := st.records ++ mkRecords st.nextIx rs
      index := ((rs.map (·.2.1)).zipIdx st.nextIx).foldl (fun idx p => idx.add p.2 p.1) st.index
      topIxs := if rs = [] then st.topIxs else none } := by
  induction rs generalizing st with
  | nil => simp [mkRecords]
  | cons r rs ih =>
    rw [addAll_cons, ih]
    simp [Store.add, mkRecords, List.zipIdx_cons, Nat.add_assoc, Nat.add_comm 1]

theorem fresh_eq (K : Consts) (lim : Nat) (d : List Nat × List Nat) (rs : List (Nat × Text × Nat)) :
    Store.fresh K lim d rs = { nextIx := rs.length, records := mkRecords 0 rs, limit := lim, dividers := d,
                               index := buildIndex (rs.map (·.2.1)), topIxs := none } := by
  simp [Store.fresh, addAll_eq, Store.new, Store.setLimit, Store.setDividers, buildIndex]

theorem fresh_snoc (K : Consts) (lim : Nat) (d : List Nat × List Nat) (rs : List (Nat × Text × Nat))
    (r : Nat × Text × Nat) :
    Store.fresh K lim d (rs ++ [r]) = (Store.fresh K lim d rs).add r.1 r.2.1 r.2.2 := by
  simp [Store.fresh, Store.addAll, List.foldl_append]

theorem rebuild_eq (K : Consts) (st : Store) :
    Store.rebuild K st = { nextIx := st.records.length, records := mkRecords 0 (st.records.map Record.data),
                           limit := st.limit, dividers := st.dividers,
                           index := buildIndex (st.records.map (·.title)), topIxs := none } := by
  simp [Store.rebuild, fresh_eq, Record.data, Function.comp_def]

/-! ### the invariant holds initially and is preserved -/

section Inv
variable {S : Sorter} {K : Consts} {st : Store}

theorem StoreInv.index_eq (h : StoreInv S K st) : st.index = buildIndex (st.records.map (·.title)) := by
  rw [h.index, rebuild_eq]

theorem StoreInv.of (h1 : st.nextIx = st.records.length)
    (h2 : ∀ (i : Nat) (h : i < st.records.length), (st.records[i]).ix = i)
    (h3 : st.index = buildIndex (st.records.map (·.title)))
    (h4 : st.topIxs = none ∨
      ∃ lim, st.topIxs = some (lim, (limitSort (S.sort topLe) K.sortFactor lim st.records).map (·.ix))) :
    StoreInv S K st :=
  ⟨h1, h2, by rw [rebuild_eq]; exact h3, h4⟩

theorem StoreInv.indexInv (h : StoreInv S K st) : StoreIndexInv st :=
  ⟨h.nextIx, h.index_eq ▸ buildIndex_inv _⟩

theorem rebuild_eq_dropCache (h : StoreInv S K st) : Store.rebuild K st = { st with topIxs := none } := by
  rw [rebuild_eq, mkRecords_data 0 st.records (by simpa using h.ixPos), ← h.index_eq, ← h.nextIx]

theorem StoreInv_new (S : Sorter) (K : Consts) : StoreInv S K (Store.new K) :=
  .of rfl (by simp [Store.new]) rfl (Or.inl rfl)

theorem StoreInv_add (h : StoreInv S K st) (id : Nat) (title : Text) (rating : Nat) :
    StoreInv S K (st.add id title rating) := by
  refine .of (by simp [Store.add, h.nextIx]) ?_ ?_ (Or.inl rfl)
  · intro i hi
    simp only [Store.add, List.length_append, List.length_singleton] at hi ⊢
    rw [List.getElem_append]
    split
    · exact h.ixPos i ‹_›
    · simp only [List.getElem_singleton]; have := h.nextIx; omega
  · simp [Store.add, buildIndex_append, h.index_eq, h.nextIx]

theorem StoreInv_clear (S : Sorter) (K : Consts) (st : Store) : StoreInv S K st.clear :=
  .of rfl (by simp [Store.clear]) rfl (Or.inl rfl)

theorem StoreInv_setLimit (h : StoreInv S K st) (n : Nat) : StoreInv S K (st.setLimit n) :=
  .of h.nextIx h.ixPos h.index_eq h.cache

theorem StoreInv_setDividers (h : StoreInv S K st) (l r : List Nat) : StoreInv S K (st.setDividers l r) :=
  .of h.nextIx h.ixPos h.index_eq h.cache

end Inv

/-- what each mutating operation does to the cache: `add` and `clear` drop it, the setters keep it -/
theorem add_topIxs (st : Store) (id : Nat) (t : Text) (r : Nat) : (st.add id t r).topIxs = none := rfl
theorem clear_topIxs (st : Store) : st.clear.topIxs = none := rfl
theorem setLimit_topIxs (st : Store) (n : Nat) : (st.setLimit n).topIxs = st.topIxs := rfl
theorem setDividers_topIxs (st : Store) (l r : List Nat) : (st.setDividers l r).topIxs = st.topIxs := rfl

/-! ### `top_ixs`: hit or miss -/

section Cache
variable (S : Sorter) (K : Consts)

theorem topIxsM_hit {st : Store} {ixs : List Nat} (h : st.topIxs = some (st.limit, ixs)) :
    st.topIxsM S K = (ixs, st) := by
  simp [Store.topIxsM, h]

theorem topIxsM_cases (st : Store) :
    (∃ ixs, st.topIxs = some (st.limit, ixs) ∧ st.topIxsM S K = (ixs, st)) ∨
    st.topIxsM S K = (topList S K st.limit st.records,
      { st with topIxs := some (st.limit, topList S K st.limit st.records) }) := by
  by_cases h : ∃ ixs, st.topIxs = some (st.limit, ixs)
  · obtain ⟨ixs, h⟩ := h; exact Or.inl ⟨ixs, h, topIxsM_hit S K h⟩
  · right
    unfold Store.topIxsM topList
    split
    · split
      · rename_i e hl; subst hl; exact absurd ⟨_, e⟩ h
      · rfl
    · rfl

theorem topIxsM_snd (st : Store) : ∃ c, (st.topIxsM S K).2 = { st with topIxs := c } := by
  rcases topIxsM_cases S K st with ⟨_, h, e⟩ | e <;> exact ⟨_, by rw [e]⟩

theorem candidatesM_wordy (st : Store) (q : Text) (hq : q.words ≠ []) :
    st.candidatesM S K q = (st.index.prepare S K q st.limit, st) := by
  simp [Store.candidatesM, List.length_pos_iff.mpr hq]

theorem candidatesM_noWords (st : Store) (q : Text) (hq : q.words = []) :
    st.candidatesM S K q = st.topIxsM S K := by
  simp [Store.candidatesM, hq]

theorem candidatesM_snd (st : Store) (q : Text) : ∃ c, (st.candidatesM S K q).2 = { st with topIxs := c } := by
  by_cases hq : q.words = []
  · rw [candidatesM_noWords S K st q hq]; exact topIxsM_snd S K st
  · rw [candidatesM_wordy S K st q hq]; exact ⟨_, rfl⟩

theorem searchM_snd_fields (order : List ScoreType) (st : Store) (q : Text) :
    (st.searchM S K order q).2.nextIx = st.nextIx ∧ (st.searchM S K order q).2.records = st.records ∧
    (st.searchM S K order q).2.limit = st.limit ∧ (st.searchM S K order q).2.dividers = st.dividers ∧
    (st.searchM S K order q).2.index = st.index := by
  obtain ⟨c, e⟩ := candidatesM_snd S K st q
  simp [Store.searchM, e]

end Cache


/-! ### the invariant along operation sequences -/

section Run
variable {S : Sorter} {K : Consts} {st : Store}

theorem StoreInv_search (h : StoreInv S K st) (order : List ScoreType) (q : Text) :
    StoreInv S K (st.searchM S K order q).2 := by
  show StoreInv S K (st.candidatesM S K q).2
  by_cases hq : q.words = []
  · rw [candidatesM_noWords S K st q hq]
    rcases topIxsM_cases S K st with ⟨_, _, e⟩ | e <;> rw [e]
    · exact h
    · exact .of h.nextIx h.ixPos h.index_eq (Or.inr ⟨st.limit, rfl⟩)
  · rw [candidatesM_wordy S K st q hq]; exact h

theorem StoreInv_apply (h : StoreInv S K st) (order : List ScoreType) (op : StoreOp) :
    StoreInv S K (st.apply S K order op) := by
  cases op with
  | add id t r => exact StoreInv_add h id t r
  | clear => exact StoreInv_clear S K st
  | setLimit n => exact StoreInv_setLimit h n
  | setDividers l r => exact StoreInv_setDividers h l r
  | search q => exact StoreInv_search h order q

theorem StoreInv_run (h : StoreInv S K st) (order : List ScoreType) (ops : List StoreOp) :
    StoreInv S K (st.run S K order ops) := by
  induction ops generalizing st with
  | nil => exact h
  | cons op ops ih => exact ih (StoreInv_apply h order op)

theorem StoreInv_reachable (S : Sorter) (K : Consts) (order : List ScoreType) (ops : List StoreOp) :
    StoreInv S K ((Store.new K).run S K order ops) := StoreInv_run (StoreInv_new S K) order ops

theorem StoreInv_fresh (S : Sorter) (K : Consts) (limit : Nat) (dv : List Nat × List Nat)
    (rs : List (Nat × Text × Nat)) : StoreInv S K (Store.fresh K limit dv rs) := by
  rw [← rs.reverse_reverse]
  induction rs.reverse with
  | nil => exact StoreInv_setDividers (StoreInv_setLimit (StoreInv_new S K) limit) dv.1 dv.2
  | cons r rs ih => rw [List.reverse_cons, fresh_snoc]; exact StoreInv_add ih r.1 r.2.1 r.2.2

end Run

/-! ### what a search reads -/

section Reads
variable (S : Sorter) (K : Consts) (order : List ScoreType)

theorem search_eq_limitSort (st : Store) (q : Text) :
    st.search S K order q =
      (limitSort (S.sort hitLe) K.sortFactor st.limit (st.hitsOf K order q (st.candidatesM S K q).1)).map st.render := by
  simp [Store.search, Store.searchM]

theorem topIxsM_fst {st : Store} (h : StoreInv S K st) : (st.topIxsM S K).1 = topList S K st.limit st.records := by
  rcases topIxsM_cases S K st with ⟨ixs, e, e'⟩ | e' <;> rw [e']
  rcases h.cache with h | ⟨lim, h⟩ <;> rw [h] at e
  · cases e
  · simp only [Option.some.injEq, Prod.mk.injEq] at e
    obtain ⟨rfl, rfl⟩ := e
    rfl

/-- the results of a search on a store satisfying the invariant are those of the freshly constructed store: a valid
    cache is as good as none -/
theorem search_eq_rebuild {S : Sorter} {K : Consts} {st : Store} (h : StoreInv S K st) (order : List ScoreType)
    (q : Text) : st.search S K order q = (Store.rebuild K st).search S K order q := by
  rw [rebuild_eq_dropCache h, search_eq_limitSort, search_eq_limitSort]
  by_cases hq : q.words = []
  · rw [candidatesM_noWords _ _ _ _ hq, candidatesM_noWords _ _ _ _ hq, topIxsM_fst S K h]
    rfl
  · rw [candidatesM_wordy _ _ _ _ hq, candidatesM_wordy _ _ _ _ hq]
    rfl

theorem topIxsM_twice (st : Store) : ((st.topIxsM S K).2.topIxsM S K).1 = (st.topIxsM S K).1 := by
  rcases topIxsM_cases S K st with ⟨ixs, h, e⟩ | e <;> rw [e]
  · rw [e]
  · exact congrArg Prod.fst (topIxsM_hit S K rfl)

theorem candidatesM_fst_after_search (st : Store) (q' q : Text) :
    ((st.searchM S K order q').2.candidatesM S K q).1 = (st.candidatesM S K q).1 := by
  show ((st.candidatesM S K q').2.candidatesM S K q).1 = _
  by_cases hq' : q'.words = []
  · rw [candidatesM_noWords S K st q' hq']
    by_cases hq : q.words = []
    · rw [candidatesM_noWords _ _ _ q hq, candidatesM_noWords _ _ _ q hq]; exact topIxsM_twice S K st
    · obtain ⟨c, e⟩ := topIxsM_snd S K st
      rw [candidatesM_wordy _ _ _ q hq, candidatesM_wordy _ _ _ q hq, e]
  · rw [candidatesM_wordy S K st q' hq']

theorem search_after_search (st : Store) (q' q : Text) :
    (st.searchM S K order q').2.search S K order q = st.search S K order q := by
  rw [search_eq_limitSort, search_eq_limitSort, candidatesM_fst_after_search]
  obtain ⟨_, hr, hl, hd, _⟩ := searchM_snd_fields S K order st q'
  simp only [Store.hitsOf, hr, hl]
  congr 1
  funext h
  simp [Store.render, hd]

end Reads


/-! ### the records behind the hits: a bounded selection among the candidate records -/

/-- the record a hit was made from -/
def Hit.record (h : Hit) : Record := { ix := h.ix, id := h.id, title := h.title, rating := h.rating }

/-- the records behind the hits of a search, in result order -/
def Store.listed (S : Sorter) (K : Consts) (order : List ScoreType) (st : Store) (q : Text) : List Record :=
  (limitSort (S.sort hitLe) K.sortFactor st.limit (st.hitsOf K order q (st.candidatesM S K q).1)).map Hit.record

/-- `Store.render` with the two markers given instead of read from the store -/
def renderWith (dv : List Nat × List Nat) (h : Hit) : Result := { id := h.id, title := highlight h dv.1 dv.2 }

def Store.candRecs (S : Sorter) (K : Consts) (st : Store) (q : Text) : List Record :=
  (st.candidatesM S K q).1.filterMap (fun ix => st.records[ix]?)

theorem record_scoreHit (K : Consts) (order : List ScoreType) (q : Text) (r : Record) :
    (scoreHit K order q r).record = r := by
  cases r; simp [scoreHit, Hit.record]

theorem hitsOf_eq_candRecs (S : Sorter) (K : Consts) (order : List ScoreType) (st : Store) (q : Text) :
    st.hitsOf K order q (st.candidatesM S K q).1 =
      ((st.candRecs S K q).map (scoreHit K order q)).filter (hitMatches q) := rfl

theorem candRecs_subset (S : Sorter) (K : Consts) (st : Store) (q : Text) :
    ∀ r ∈ st.candRecs S K q, r ∈ st.records :=
  fun _ hr => let ⟨_, _, h⟩ := List.mem_filterMap.mp hr; List.mem_of_getElem? h

theorem scoreHit_record {K : Consts} {order : List ScoreType} {st : Store} {q : Text} {ixs : List Nat} {h : Hit}
    (hm : h ∈ st.hitsOf K order q ixs) : scoreHit K order q h.record = h := by
  obtain ⟨r, _, rfl⟩ := List.mem_map.mp (List.mem_filter.mp hm).1
  rw [record_scoreHit]

section Listed
variable {S : Sorter} {K : Consts} (hS : SorterOK S) (order : List ScoreType) (st : Store) (q : Text)
include hS

theorem search_eq_listed :
    st.search S K order q =
      (st.listed S K order q).map (fun r => renderWith st.dividers (scoreHit K order q r)) := by
  rw [search_eq_limitSort, Store.listed, List.map_map]
  -- a selected hit is the scored hit of its record
  exact List.map_congr_left fun h hm => by
    rw [Function.comp_apply, scoreHit_record ((hS.topK hitLe_preorder _ _ _).mem_of_mem hm)]; rfl

/-- The listed records are a bounded selection, in hit order, among the candidate records whose hit passes the
    filter. Any store, any query: everything a search does beyond choosing the candidates. -/
theorem listed_TopK :
    TopK (fun a b => hitLe (scoreHit K order q a) (scoreHit K order q b)) st.limit
      ((st.candRecs S K q).filter (fun r => hitMatches q (scoreHit K order q r))) (st.listed S K order q) := by
  have h : TopK _ st.limit ((st.hitsOf K order q (st.candidatesM S K q).1).map Hit.record) (st.listed S K order q) :=
    (hS.topK hitLe_preorder _ st.limit _).map Hit.record
      (le' := fun a b => hitLe (scoreHit K order q a) (scoreHit K order q b))
      (fun a ha b hb => by rw [scoreHit_record ha, scoreHit_record hb])
  rwa [hitsOf_eq_candRecs, List.filter_map, List.map_map, List.map_congr_left (g := id), List.map_id] at h
  exact fun r _ => record_scoreHit K order q r

end Listed

/-! ### the empty query (no word in the query; C12) -/

/-- a title as it is displayed when nothing is highlighted: the walk of `highlight` with no match and no markers -/
def plainTitle (t : Text) : List Nat := (hlWalk t.source [] [] [] t.words 0 0).filter (· != 0)

theorem scoreHit_noWords (K : Consts) (order : List ScoreType) (q : Text) (hq : q.words = []) (r : Record) :
    scoreHit K order q r =
      { ix := r.ix, id := r.id, title := r.title, rating := r.rating, rmatches := [], qmatches := [],
        scores := order.map (scoreOf r.title r.rating []) } := by
  simp [scoreHit, textMatch, hq]

theorem hlWalk_noMatch_markers (source dl dr : List Nat) (ws : List WordShape) (wi off : Nat) :
    hlWalk source [] dl dr ws wi off = hlWalk source [] [] [] ws wi off := by
  induction ws generalizing wi off with
  | nil => rfl
  | cons w ws ih => simp only [hlWalk, List.find?_nil, ih]

theorem renderWith_noWords (K : Consts) (order : List ScoreType) (q : Text) (hq : q.words = []) (r : Record)
    (dv : List Nat × List Nat) :
    renderWith dv (scoreHit K order q r) = { id := r.id, title := plainTitle r.title } := by
  simp only [renderWith, highlight, scoreHit_noWords K order q hq, plainTitle, hlWalk_noMatch_markers]

theorem records_lookup {S : Sorter} {K : Consts} {st : Store} (h : StoreInv S K st) :
    ∀ r ∈ st.records, st.records[r.ix]? = some r := by
  intro r hr
  obtain ⟨i, hi, rfl⟩ := List.mem_iff_getElem.mp hr
  rw [h.ixPos i hi, List.getElem?_eq_getElem hi]

theorem filterMap_lookup (recs top : List Record) (h : ∀ r ∈ top, recs[r.ix]? = some r) :
    (top.map (·.ix)).filterMap (fun ix => recs[ix]?) = top := by
  induction top with
  | nil => rfl
  | cons r top ih =>
    simp only [List.map_cons, List.filterMap_cons, h r (by simp)]
    rw [ih (fun r' hr' => h r' (by simp [hr']))]

theorem listed_setDividers (S : Sorter) (K : Consts) (order : List ScoreType) (st : Store) (q : Text) (l r : List Nat) :
    (st.setDividers l r).listed S K order q = st.listed S K order q := by
  unfold Store.listed
  rw [candidatesM_setDividers]
  rfl

/-- the selection that an empty query starts from -/
def Store.cand (S : Sorter) (K : Consts) (st : Store) : List Record :=
  limitSort (S.sort topLe) K.sortFactor st.limit st.records

section Empty
variable {S : Sorter} {K : Consts} {st : Store}

theorem cand_TopK (S : Sorter) (hS : SorterOK S) (K : Consts) (st : Store) :
    TopK topLe st.limit st.records (st.cand S K) :=
  hS.topK topLe_preorder _ st.limit st.records

theorem candidatesM_empty (h : StoreInv S K st) (q : Text) (hq : q.words = []) :
    (st.candidatesM S K q).1 = (st.cand S K).map (·.ix) := by
  rw [candidatesM_noWords S K st q hq]
  exact topIxsM_fst S K h

variable (hS : SorterOK S) (h : StoreInv S K st) (q : Text) (hq : q.words = [])
include hS h hq

theorem candRecs_empty : st.candRecs S K q = st.cand S K := by
  rw [Store.candRecs, candidatesM_empty h q hq]
  exact filterMap_lookup _ _ fun r hr => records_lookup h r ((cand_TopK S hS K st).mem_of_mem hr)

theorem hitsOf_empty (order : List ScoreType) :
    st.hitsOf K order q (st.candidatesM S K q).1 = (st.cand S K).map (scoreHit K order q) := by
  rw [hitsOf_eq_candRecs, candRecs_empty hS h q hq]
  exact List.filter_eq_self.mpr (fun a _ => hitMatches_empty_query a (by simp [hq]))

theorem listed_TopK_cand (order : List ScoreType) :
    TopK (fun a b => hitLe (scoreHit K order q a) (scoreHit K order q b)) st.limit (st.cand S K)
      (st.listed S K order q) := by
  have := listed_TopK (K := K) hS order st q
  rwa [candRecs_empty hS h q hq,
    List.filter_eq_self.mpr (fun a _ => hitMatches_empty_query _ (by simp [hq]))] at this

theorem listed_perm_cand (order : List ScoreType) : (st.listed S K order q).Perm (st.cand S K) :=
  (listed_TopK_cand hS h q hq order).perm_of_length_le (cand_TopK S hS K st).length_le

end Empty

/-- no word, no highlighting – in any store -/
theorem search_empty {S : Sorter} (hS : SorterOK S) {K : Consts} (order : List ScoreType)
    (st : Store) (q : Text) (hq : q.words = []) :
    st.search S K order q =
      (st.listed S K order q).map (fun r => ({ id := r.id, title := plainTitle r.title } : Result)) := by
  rw [search_eq_listed hS]
  exact List.map_congr_left fun r _ => renderWith_noWords K order q hq r _

/-! #### the generated score order on hits without matches -/

theorem scoreOf_nil :
    scoreChars [] = 0 ∧ scoreWords [] = 0 ∧ scoreTails [] = 0 ∧ scoreTrans [] = 0 ∧ scoreFin [] = 1 ∧
    scoreOffset [] = 0 := by
  simp [scoreChars, scoreWords, scoreTails, scoreTrans, transCount, scoreFin, scoreOffset]

/-- the order of hits without matches under the order
    `[chars, words, tails, trans, fin, offset, rating, wordLen, charLen]`: higher rating first, then fewer words,
    then fewer characters -/
def plainLe (a b : Record) : Prop :=
  b.rating < a.rating ∨ (a.rating = b.rating ∧
    (a.title.words.length < b.title.words.length ∨ (a.title.words.length = b.title.words.length ∧
      (a.title.words.map (·.len)).sum ≤ (b.title.words.map (·.len)).sum)))

/-- hits of a query without words: the components computed from the matches are the same for every record, so the
    order is decided by what follows them in the score order -/
theorem hitLe_noWords (K : Consts) (pre post : List ScoreType) (q : Text) (hq : q.words = []) (a b : Record)
    (hpre : ∀ s ∈ pre, s ≠ .rating ∧ s ≠ .wordLen ∧ s ≠ .charLen) :
    hitLe (scoreHit K (pre ++ post) q a) (scoreHit K (pre ++ post) q b) =
      scoresLe (post.map (scoreOf a.title a.rating [])) (post.map (scoreOf b.title b.rating [])) := by
  have e : pre.map (scoreOf a.title a.rating []) = pre.map (scoreOf b.title b.rating []) :=
    List.map_congr_left fun s hs => by
      obtain ⟨h1, h2, h3⟩ := hpre s hs
      cases s <;> first | rfl | contradiction
  simp only [hitLe, scoreHit_noWords K _ q hq, List.map_append, e, scoresLe_append_left]

theorem hitLe_empty_iff (K : Consts) (q : Text) (hq : q.words = []) (a b : Record) :
    hitLe (scoreHit K [ScoreType.chars, .words, .tails, .trans, .fin, .offset, .rating, .wordLen, .charLen] q a)
          (scoreHit K [ScoreType.chars, .words, .tails, .trans, .fin, .offset, .rating, .wordLen, .charLen] q b) = true
      ↔ plainLe a b := by
  have e := hitLe_noWords K [.chars, .words, .tails, .trans, .fin, .offset] [.rating, .wordLen, .charLen] q hq a b
    (by decide)
  simp only [List.cons_append, List.nil_append] at e
  -- the three deciding components, and the same comparisons on the naturals they are made from
  simp only [e, List.map_cons, List.map_nil, scoreOf, scoresLe_cons, show scoresLe [] [] = true from rfl, and_true,
    plainLe, Int.neg_lt_neg_iff, Int.neg_inj, Int.ofNat_lt, Int.ofNat_inj, Nat.le_iff_lt_or_eq]

end Lucid
