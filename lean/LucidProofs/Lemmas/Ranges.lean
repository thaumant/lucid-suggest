/-
  LucidProofs.Lemmas.Ranges — a small toolkit for the generated Unicode tables
  (`LucidModel/Gen/Unicode.lean`): lists of closed ranges (`Gen.inRanges`) and the lower-case map
  (`Gen.lowerLookup`). Every lemma is stated for ALL `c : Nat` (not only scalar values).

  Facts about the big tables are meant to be checked by kernel evaluation (`decide +kernel`). A kernel step
  through a list element costs about 0.1 ms, so anything quadratic in the tables is out of reach; instead a set
  of code points is turned into one number (`maskOf`, bit `c` set iff `c` is in the set), on which the kernel
  computes with GMP: disjointness and inclusion of two tables are one `&&&` each, membership is one shift.
  A statement about `lowerLookup m c` for every `c` follows from a check of the pairs of `m` and the trivial
  case `c ↦ c` (`lowerLookup_ind`).
-/
import LucidModel.Gen.Unicode

namespace Lucid
open Gen

theorem inRanges_nil (c : Nat) : inRanges [] c = false := rfl

theorem inRanges_cons (r : Nat × Nat) (rs : List (Nat × Nat)) (c : Nat) :
    inRanges (r :: rs) c = ((decide (r.1 ≤ c) && decide (c ≤ r.2)) || inRanges rs c) := by
  simp only [inRanges, List.any_cons]

theorem inRanges_append (rs1 rs2 : List (Nat × Nat)) (c : Nat) :
    inRanges (rs1 ++ rs2) c = (inRanges rs1 c || inRanges rs2 c) := by
  simp only [inRanges, List.any_append]

def singletons (l : List Nat) : List (Nat × Nat) := l.map (fun c => (c, c))

theorem inRanges_singletons (l : List Nat) (c : Nat) : inRanges (singletons l) c = l.contains c := by
  induction l with
  | nil => rfl
  | cons a l ih =>
    show inRanges ((a, a) :: singletons l) c = _
    rw [inRanges_cons, ih, List.contains_cons]
    congr 1
    rw [Bool.eq_iff_iff]
    simp only [Bool.and_eq_true, decide_eq_true_eq, beq_iff_eq]
    omega

/-- the ranges are non-empty, ascending and pairwise apart (linear) -/
def rangesAscending : List (Nat × Nat) → Bool
  | [] => true
  | [r] => Nat.ble r.1 r.2
  | r :: q :: rest => Nat.ble r.1 r.2 && Nat.blt r.2 q.1 && rangesAscending (q :: rest)

def keysAscending : List (Nat × Nat) → Bool
  | [] => true
  | [_] => true
  | p :: q :: rest => Nat.blt p.1 q.1 && keysAscending (q :: rest)

/-- the points of `rs` as the set bits of one number -/
def maskOf (rs : List (Nat × Nat)) : Nat :=
  rs.foldr (fun r m => ((2 ^ (r.2 + 1 - r.1) - 1) <<< r.1) ||| m) 0

theorem testBit_maskOf (rs : List (Nat × Nat)) (c : Nat) : (maskOf rs).testBit c = inRanges rs c := by
  induction rs with
  | nil => simp [maskOf, inRanges]
  | cons r rs ih =>
    rw [inRanges_cons, ← ih]
    simp only [maskOf, List.foldr_cons, Nat.testBit_or, Nat.testBit_shiftLeft, Nat.testBit_two_pow_sub_one]
    congr 1
    rw [Bool.eq_iff_iff]
    simp only [Bool.and_eq_true, decide_eq_true_eq, ge_iff_le]
    omega

theorem maskOf_disjoint {rs1 rs2 : List (Nat × Nat)} (h : maskOf rs1 &&& maskOf rs2 = 0) (c : Nat)
    (h1 : inRanges rs1 c = true) : inRanges rs2 c = false := by
  have := congrArg (Nat.testBit · c) h
  simpa only [Nat.testBit_and, testBit_maskOf, Nat.zero_testBit, h1, Bool.true_and] using this

theorem maskOf_subset {rs1 rs2 : List (Nat × Nat)} (h : maskOf rs1 &&& maskOf rs2 = maskOf rs1) (c : Nat)
    (h1 : inRanges rs1 c = true) : inRanges rs2 c = true := by
  have := congrArg (Nat.testBit · c) h
  simpa only [Nat.testBit_and, testBit_maskOf, h1, Bool.true_and] using this

theorem lowerLookup_cases (m : List (Nat × Nat)) (c : Nat) :
    (∃ p ∈ m, p.1 = c ∧ lowerLookup m c = p.2) ∨ ((∀ p ∈ m, p.1 ≠ c) ∧ lowerLookup m c = c) := by
  unfold lowerLookup
  cases h : m.find? (fun p => p.1 == c) with
  | some p =>
    left
    exact ⟨p, List.mem_of_find?_eq_some h, by simpa using List.find?_some h, rfl⟩
  | none =>
    right
    refine ⟨?_, rfl⟩
    intro p hp
    have := List.find?_eq_none.1 h p hp
    simpa using this

theorem lowerLookup_ind {P : Nat → Nat → Prop} (m : List (Nat × Nat)) (h1 : ∀ p ∈ m, P p.1 p.2)
    (h2 : ∀ c, lowerLookup m c = c → P c c) : ∀ c, P c (lowerLookup m c) := by
  intro c
  rcases lowerLookup_cases m c with ⟨p, hp, rfl, he⟩ | ⟨_, he⟩
  · rw [he]; exact h1 p hp
  · rw [he]; exact h2 c he

def keyRanges (m : List (Nat × Nat)) : List (Nat × Nat) := singletons (m.map (·.1))
def valRanges (m : List (Nat × Nat)) : List (Nat × Nat) := singletons (m.map (·.2))

theorem lowerLookup_of_not_key (m : List (Nat × Nat)) (c : Nat) (h : inRanges (keyRanges m) c = false) :
    lowerLookup m c = c := by
  rcases lowerLookup_cases m c with ⟨p, hp, hc, _⟩ | ⟨_, he⟩
  · rw [keyRanges, inRanges_singletons, ← hc] at h
    simp [List.mem_map_of_mem (f := (·.1)) hp] at h
  · exact he

/-- the map with the scan of `m` skipped for non-keys: what the kernel evaluates in place of `lowerLookup m` -/
def lowerFast (m : List (Nat × Nat)) (c : Nat) : Nat :=
  if (maskOf (keyRanges m)).testBit c then lowerLookup m c else c

theorem lowerFast_eq (m : List (Nat × Nat)) : lowerFast m = lowerLookup m := by
  funext c
  unfold lowerFast
  split
  · rfl
  · rename_i h
    exact (lowerLookup_of_not_key m c (by rwa [testBit_maskOf, Bool.not_eq_true] at h)).symm

theorem lowerLookup_idem (m : List (Nat × Nat)) (h : maskOf (valRanges m) &&& maskOf (keyRanges m) = 0) (c : Nat) :
    lowerLookup m (lowerLookup m c) = lowerLookup m c :=
  lowerLookup_ind (P := fun _ d => lowerLookup m d = d) m
    (fun p hp => lowerLookup_of_not_key m p.2 (maskOf_disjoint h p.2 (by
      rw [valRanges, inRanges_singletons]; simp [List.mem_map_of_mem (f := (·.2)) hp])))
    (fun _ hc => hc) c

/-! ### direct executable readings of the tables

Quadratic comparisons of two range lists, and a binary search tree over the pairs (read as ranges, `mem`, or as a
map, `get`), exercised by the examples below. The theorems about the tables go through `maskOf`, not through these. -/

def rangesDisjoint (rs1 rs2 : List (Nat × Nat)) : Bool :=
  rs1.all (fun r => rs2.all (fun q => Nat.blt r.2 q.1 || Nat.blt q.2 r.1))

/-- sufficient for inclusion of the sets, not necessary -/
def rangesSubset (rs1 rs2 : List (Nat × Nat)) : Bool :=
  rs1.all (fun r => rs2.any (fun q => Nat.ble q.1 r.1 && Nat.ble r.2 q.2))

/-- binary tree of pairs; read either as a set of closed ranges `[a, b]` or as a map `a ↦ b` -/
inductive PTree where
  | leaf
  | node (l : PTree) (a b : Nat) (r : PTree)

namespace PTree

def toList : PTree → List (Nat × Nat)
  | leaf => []
  | node l a b r => l.toList ++ (a, b) :: r.toList

/-- a tree of depth at most `d` from a prefix of the list, and the unused rest -/
def build : Nat → List (Nat × Nat) → PTree × List (Nat × Nat)
  | 0, l => (leaf, l)
  | d + 1, l =>
    match build d l with
    | (t1, []) => (t1, [])
    | (t1, (a, b) :: l2) =>
      match build d l2 with
      | (t2, l3) => (node t1 a b t2, l3)

def ofList (l : List (Nat × Nat)) : PTree := (build (Nat.log2 l.length + 1) l).1

def mem : PTree → Nat → Bool
  | leaf, _ => false
  | node l a b r, c =>
    match Nat.blt c a with
    | true => l.mem c
    | false =>
      match Nat.ble c b with
      | true => true
      | false => r.mem c

/-- search-tree invariant of the range reading: ranges non-empty, inside `[lb, ub)`, ascending and apart -/
def okR : PTree → Nat → Nat → Bool
  | leaf, _, _ => true
  | node l a b r, lb, ub => Nat.ble lb a && Nat.ble a b && Nat.blt b ub && l.okR lb a && r.okR (b + 1) ub

def get : PTree → Nat → Nat
  | leaf, c => c
  | node l a b r, c =>
    match Nat.blt c a with
    | true => l.get c
    | false =>
      match Nat.beq c a with
      | true => b
      | false => r.get c

end PTree

example : rangesDisjoint [(1, 3), (7, 9)] [(4, 6), (10, 10)] = true := by decide
example : rangesDisjoint [(1, 4)] [(4, 6)] = false := by decide
example : rangesSubset [(2, 3), (8, 8)] [(1, 3), (7, 9)] = true := by decide
example : rangesSubset [(2, 7)] [(1, 3), (7, 9)] = false := by decide
example : rangesAscending [(1, 3), (7, 9)] = true ∧ rangesAscending [(1, 3), (3, 9)] = false := by decide
example : (PTree.ofList [(1, 3), (7, 9), (11, 11)]).toList = [(1, 3), (7, 9), (11, 11)] := by decide
example : (PTree.ofList [(1, 3), (7, 9), (11, 11)]).okR 0 12 = true := by decide
example : (PTree.ofList [(7, 9), (1, 3)]).okR 0 12 = false := by decide
example : (PTree.ofList [(1, 3), (7, 9), (11, 11)]).mem 8 = true ∧ (PTree.ofList [(1, 3), (7, 9)]).mem 5 = false := by
  decide
example : (PTree.ofList [(1, 3), (7, 9), (11, 12)]).get 7 = 9 ∧ (PTree.ofList [(1, 3), (7, 9)]).get 5 = 5 := by decide

end Lucid
