/-
  LucidProofs.Lemmas.SearchGlue — from "the scored hit of a candidate record passes the filter" to "the record
  is among the search results" (`CandOK`, the hypothesis every findability theorem discharges) when the store holds no
  more records than the limit (the bounded selection `limitSort` then drops nothing), and the case analysis of the filter `hit_matches` (`search/filter.rs`).
-/
import LucidProofs.Lemmas.Orders
import LucidProofs.Lemmas.TopK

namespace Lucid

/-! ### the filter -/

theorem hitMatches_empty_query {q : Text} (h : Hit) (hq : q.words.length = 0) : hitMatches q h = true := by
  simp [hitMatches, hq]

theorem hitMatches_single {q : Text} (h : Hit) (hq : q.words.length = 1) :
    hitMatches q h = true ↔ h.rmatches ≠ [] := by
  unfold hitMatches
  simp only [hq, Nat.one_ne_zero, if_false, List.length_eq_zero_iff]
  constructor
  · intro hm he; simp [he] at hm
  · intro hne
    simp only [hne, if_false]
    split <;> simp

/-- a non-empty query: no record match ⇒ filtered out -/
theorem hitMatches_nil {q : Text} (h : Hit) (hq : q.words.length ≠ 0) (hr : h.rmatches = []) :
    hitMatches q h = false := by
  simp [hitMatches, hq, hr]

theorem hitMatches_of_counts {q : Text} (h : Hit) (hne : h.rmatches ≠ [])
    (hc : 2 ≤ h.rmatches.length ∨ 2 ≤ h.qmatches.length ∨ ∃ m ∈ h.rmatches, m.fin = true) :
    hitMatches q h = true := by
  unfold hitMatches
  split
  · rfl
  · simp only [List.length_eq_zero_iff, hne, if_false]
    split
    · rename_i rm qm e1 e2
      rcases hc with hc | hc | hc
      · simp [e1] at hc
      · simp [e2] at hc
      · obtain ⟨m, hm, hfin⟩ := hc
        rw [e1, List.mem_singleton] at hm
        subst hm
        simp [hfin]
    · rfl

/-- the exact reading of the filter for a query of two or more words with one record match and one query match -/
theorem hitMatches_one_one {q : Text} (h : Hit) (rm qm : WMatch) (hq : 2 ≤ q.words.length)
    (hr : h.rmatches = [rm]) (hqm : h.qmatches = [qm]) :
    hitMatches q h = true ↔ (rm.fin = true ∨ rm.wordLen ≤ qm.wordLen * 2) := by
  unfold hitMatches
  have h0 : ¬ q.words.length = 0 := by omega
  have h1 : q.words.length > 1 := by omega
  simp only [h0, if_false, hr, hqm, List.length_cons, List.length_nil, h1, if_true]
  cases rm.fin <;> simp <;> omega

/-! ### `scoreHit` fields -/

theorem scoreHit_id (K : Consts) (order : List ScoreType) (q : Text) (r : Record) : (scoreHit K order q r).id = r.id := rfl
theorem scoreHit_rmatches (K : Consts) (order : List ScoreType) (q : Text) (r : Record) :
    (scoreHit K order q r).rmatches = (textMatch K r.title q).1 := rfl
theorem scoreHit_qmatches (K : Consts) (order : List ScoreType) (q : Text) (r : Record) :
    (scoreHit K order q r).qmatches = (textMatch K r.title q).2 := rfl

theorem candidatesM_setDividers (S : Sorter) (K : Consts) (st : Store) (q : Text) (l r : List Nat) :
    ((st.setDividers l r).candidatesM S K q).1 = (st.candidatesM S K q).1 := by
  dsimp only [Store.candidatesM, Store.topIxsM, Store.setDividers]
  split
  · rfl
  · split
    · split <;> rfl
    · rfl

/-! ### a passing candidate is returned when nothing can be cut -/

theorem hitsOf_length_le (K : Consts) (order : List ScoreType) (st : Store) (q : Text) (ixs : List Nat) :
    (st.hitsOf K order q ixs).length ≤ ixs.length := by
  unfold Store.hitsOf
  refine Nat.le_trans (List.length_filter_le _ _) ?_
  rw [List.length_map]
  exact List.length_filterMap_le _ _

theorem mem_hitsOf {K : Consts} {order : List ScoreType} {st : Store} {q : Text} {ixs : List Nat} {ix : Nat} {r : Record}
    (hix : ix ∈ ixs) (hr : st.records[ix]? = some r) (hm : hitMatches q (scoreHit K order q r) = true) :
    scoreHit K order q r ∈ st.hitsOf K order q ixs := by
  unfold Store.hitsOf
  rw [List.mem_filter]
  refine ⟨List.mem_map.mpr ⟨r, List.mem_filterMap.mpr ⟨ix, hix, hr⟩, rfl⟩, hm⟩

theorem hit_of_mem_hitsOf {K : Consts} {order : List ScoreType} {st : Store} {q : Text} {ixs : List Nat} {h : Hit}
    (hh : h ∈ st.hitsOf K order q ixs) :
    ∃ ix r, ix ∈ ixs ∧ st.records[ix]? = some r ∧ h = scoreHit K order q r ∧ hitMatches q h = true := by
  simp only [Store.hitsOf, List.mem_filter, List.mem_map, List.mem_filterMap] at hh
  obtain ⟨⟨r, ⟨ix, hix, hr⟩, rfl⟩, hm⟩ := hh
  exact ⟨ix, r, hix, hr, rfl, hm⟩

/-- the store-level hypotheses shared by all findability theorems: `r` is the record at position `ix`, `ix` is among
    the candidates for `q`, the candidate list is duplicate-free and in range, and the store is not over the limit -/
structure CandOK (S : Sorter) (K : Consts) (st : Store) (q : Text) (ix : Nat) (r : Record) : Prop where
  get    : st.records[ix]? = some r
  cand   : ix ∈ (st.candidatesM S K q).1
  nodup  : (st.candidatesM S K q).1.Nodup
  range  : ∀ j ∈ (st.candidatesM S K q).1, j < st.records.length
  small  : st.records.length ≤ st.limit

/-- a candidate record whose scored hit passes the filter is among the results, provided the store holds no more
    records than the limit: then no more hits than the limit reach the bounded selection, which drops nothing -/
theorem CandOK.mem_search {S : Sorter} {K : Consts} {st : Store} {q : Text} {ix : Nat} {r : Record}
    (hc : CandOK S K st q ix r) (hS : SorterOK S) (order : List ScoreType)
    (hm : hitMatches q (scoreHit K order q r) = true) :
    ∃ res ∈ st.search S K order q, res.id = r.id ∧ res = st.render (scoreHit K order q r) := by
  have hperm := (hS.topK hitLe_preorder K.sortFactor st.limit
      (st.hitsOf K order q (st.candidatesM S K q).1)).perm_of_length_le
    (Nat.le_trans (hitsOf_length_le K order st q _)
      (Nat.le_trans (nodup_bounded_length _ _ hc.nodup hc.range) hc.small))
  refine ⟨_, ?_, rfl, rfl⟩
  simp only [Store.search, Store.searchM]
  exact List.mem_map.mpr ⟨_, hperm.mem_iff.mpr (mem_hitsOf hc.cand hc.get hm), rfl⟩

/-- `CandOK.mem_search` with the bound on the buffer factor that the property statements carry -/
theorem CandOK.hit_in_results {S : Sorter} {K : Consts} {st : Store} {q : Text} {ix : Nat} {r : Record}
    (hc : CandOK S K st q ix r) (hS : SorterOK S) (hK : 1 ≤ K.sortFactor) (order : List ScoreType)
    (hm : hitMatches q (scoreHit K order q r) = true) :
    ∃ res ∈ st.search S K order q, res.id = r.id ∧ res = st.render (scoreHit K order q r) :=
  hc.mem_search hS order hm

end Lucid
