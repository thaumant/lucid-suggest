/-
  LucidProofs.Lemmas.ListFacts — facts about lists that core Lean lacks, and the characterising lemmas of
  `slice` (`LucidModel.Basic`), through which the model reads every word, stem and gram. Everything else rests on it.
-/
import LucidModel.Basic

namespace Lucid

theorem getD_append_left {α : Type} (a t : List α) (d : α) {k : Nat} (h : k < a.length) :
    (a ++ t).getD k d = a.getD k d := by
  simp [List.getElem?_append_left h]

theorem getD_append_right {α : Type} (a t : List α) (d : α) (k : Nat) :
    (a ++ t).getD (a.length + k) d = t.getD k d := by
  simp [List.getElem?_append_right]

theorem take_succ_getD {α : Type} (l : List α) (d : α) (i : Nat) (h : i < l.length) :
    l.take (i + 1) = l.take i ++ [l.getD i d] := by
  rw [List.take_add_one]; simp [List.getD, List.getElem?_eq_getElem h]

theorem getD_zero_mem {l : List Nat} (h : l ≠ []) : l.getD 0 0 ∈ l := by
  cases l with
  | nil => exact absurd rfl h
  | cons x xs => simp

theorem drop_eq_cons {α : Type} {l s : List α} {i : Nat} {c : α} (h : l.drop i = c :: s) :
    l[i]? = some c ∧ l.drop (i + 1) = s := by
  constructor
  · rw [← Nat.add_zero i, ← List.getElem?_drop, h]; rfl
  · rw [← List.drop_drop, h]; rfl

theorem drop_eq_cons_getD {α : Type} {l s : List α} {i : Nat} {c : α} (d : α) (h : l.drop i = c :: s) :
    l.getD i d = c ∧ l.drop (i + 1) = s ∧ i + 1 ≤ l.length := by
  obtain ⟨g, hd⟩ := drop_eq_cons h
  exact ⟨by rw [List.getD_eq_getElem?_getD, g]; rfl, hd, (List.getElem?_eq_some_iff.mp g).1⟩

theorem pairwise_unique {α : Type} {R : α → α → Prop} {l : List α} (h : l.Pairwise R) {a b : α}
    (ha : a ∈ l) (hb : b ∈ l) (hab : ¬ R a b) (hba : ¬ R b a) : a = b := by
  induction h with
  | nil => cases ha
  | cons hx _ ih =>
    rcases List.mem_cons.1 ha with ea | ha' <;> rcases List.mem_cons.1 hb with eb | hb'
    · rw [ea, eb]
    · exact absurd (ea ▸ hx b hb') hab
    · exact absurd (eb ▸ hx a ha') hba
    · exact ih ha' hb'

theorem inj_of_pairwise_ne {α β : Type} (f : α → β) (l : List α) (h : l.Pairwise (fun a b => f a ≠ f b)) :
    ∀ a ∈ l, ∀ b ∈ l, f a = f b → a = b :=
  fun _ ha _ hb e => pairwise_unique h ha hb (fun n => n e) (fun n => n e.symm)

theorem nodup_bounded_length (n : Nat) (l : List Nat) (hn : l.Nodup) (h : ∀ x ∈ l, x < n) : l.length ≤ n := by
  simpa using hn.length_le_of_subset (fun x hx => List.mem_range.2 (h x hx))

theorem length_filter_add_not {α : Type} (p : α → Bool) (l : List α) :
    (l.filter p).length + (l.filter (fun x => !p x)).length = l.length := by
  induction l with
  | nil => rfl
  | cons a t ih => cases h : p a <;> simp [h] <;> omega

theorem takeWhile_getElem? {α : Type} (p : α → Bool) (l : List α) :
    ∀ k, k < (l.takeWhile p).length → ∃ c, l[k]? = some c ∧ p c = true := by
  induction l with
  | nil => simp
  | cons a l ih =>
    intro k hk
    by_cases h : p a = true
    · simp only [List.takeWhile_cons, h, if_true, List.length_cons] at hk
      cases k with
      | zero => exact ⟨a, by simp, h⟩
      | succ k =>
        obtain ⟨c, hc, hp⟩ := ih k (by omega)
        exact ⟨c, by simpa using hc, hp⟩
    · simp [h] at hk

theorem takeWhile_stop {α : Type} (p : α → Bool) (l : List α) (h : (l.takeWhile p).length < l.length) :
    ∃ c, l[(l.takeWhile p).length]? = some c ∧ p c = false := by
  induction l with
  | nil => simp at h
  | cons a l ih =>
    by_cases ha : p a = true
    · simp only [List.takeWhile_cons, ha, if_true, List.length_cons] at h ⊢
      obtain ⟨c, hc, hp⟩ := ih (by omega)
      exact ⟨c, by simpa using hc, hp⟩
    · refine ⟨a, by simp [ha], by simpa using ha⟩

theorem exists_last_split {α : Type} (p : α → Bool) (l : List α) :
    (∀ x ∈ l, p x = true) ∨ ∃ a x b, l = a ++ x :: b ∧ p x = false ∧ ∀ y ∈ b, p y = true := by
  induction l with
  | nil => exact .inl nofun
  | cons x l ih =>
    rcases ih with h | ⟨a, y, b, rfl, hy, hb⟩
    · cases hx : p x
      · exact .inr ⟨[], x, l, rfl, hx, h⟩
      · exact .inl (List.forall_mem_cons.mpr ⟨hx, h⟩)
    · exact .inr ⟨x :: a, y, b, rfl, hy, hb⟩

theorem flatMap_singleton_self (l : List Nat) (f : Nat → List Nat) (h : ∀ x ∈ l, f x = [x]) : l.flatMap f = l := by
  induction l with
  | nil => rfl
  | cons a l ih =>
    rw [List.flatMap_cons, h a List.mem_cons_self, ih (fun x hx => h x (List.mem_cons_of_mem _ hx))]
    rfl

theorem map_eq_zipIdx_map {α β γ : Type} (g : α → β) (h : α → Nat) (F : β → Nat → γ) (l : List α)
    (hl : l.map h = List.range l.length) :
    l.map (fun a => F (g a) (h a)) = (l.map g).zipIdx.map (fun p => F p.1 p.2) := by
  apply List.ext_getElem?
  intro i
  have := congrArg (fun l => l[i]?) hl
  simp only [List.getElem?_map, List.getElem?_zipIdx] at this ⊢
  cases hi : l[i]? with
  | none => simp
  | some a =>
    have hlt : i < l.length := (List.getElem?_eq_some_iff.1 hi).1
    rw [hi, List.getElem?_range hlt] at this
    simp only [Option.map_some, Option.some.injEq] at this
    simp [this]

theorem slice_getElem? {α : Type} (l : List α) (lo hi k : Nat) :
    (slice l lo hi)[k]? = if k < hi - lo then l[lo + k]? else none := by
  simp only [slice, List.getElem?_take, List.getElem?_drop]

theorem slice_getD_zero (l : List Nat) (lo hi : Nat) (h : lo < hi) : (slice l lo hi).getD 0 0 = l.getD lo 0 := by
  rw [List.getD_eq_getElem?_getD, List.getD_eq_getElem?_getD, slice_getElem?, if_pos (Nat.sub_pos_of_lt h),
    Nat.add_zero]

theorem slice_length_le {α : Type} (l : List α) (lo hi : Nat) : (slice l lo hi).length ≤ hi - lo := by
  simp only [slice, List.length_take]; omega

theorem slice_length {α : Type} (l : List α) (lo hi : Nat) (h : hi ≤ l.length) :
    (slice l lo hi).length = hi - lo := by
  simp only [slice, List.length_take, List.length_drop]; omega

theorem slice_self {α : Type} (l : List α) (a : Nat) : slice l a a = [] := by simp [slice]

theorem slice_zero_eq_take {α : Type} (l : List α) (b : Nat) : slice l 0 b = l.take b := by simp [slice]

theorem slice_full {α : Type} (l : List α) : slice l 0 l.length = l := by simp [slice]

theorem slice_map {α β : Type} (f : α → β) (l : List α) (lo hi : Nat) :
    (slice l lo hi).map f = slice (l.map f) lo hi := by
  simp only [slice, List.map_take, List.map_drop]

theorem slice_append_drop {α : Type} (l : List α) {a b : Nat} (hab : a ≤ b) :
    slice l a b ++ l.drop b = l.drop a := by
  have h1 : l.drop b = (l.drop a).drop (b - a) := by rw [List.drop_drop]; congr 1; omega
  rw [slice, h1, List.take_append_drop]

theorem slice_append_slice {α : Type} (l : List α) {a b c : Nat} (hab : a ≤ b) (hbc : b ≤ c) :
    slice l a b ++ slice l b c = slice l a c := by
  have h1 : l.drop b = (l.drop a).drop (b - a) := by rw [List.drop_drop]; congr 1; omega
  have h2 : c - a = (b - a) + (c - b) := by omega
  rw [slice, slice, slice, h1, h2, List.take_add]

theorem take_append_slice {α : Type} (l : List α) {a b : Nat} (hab : a ≤ b) :
    l.take a ++ slice l a b = l.take b := by
  rw [← slice_zero_eq_take, ← slice_zero_eq_take, slice_append_slice l (Nat.zero_le a) hab]

theorem slice_one {α : Type} (l : List α) (i : Nat) (x : α) (hx : l[i]? = some x) : slice l i (i+1) = [x] := by
  have : i + 1 - i = 1 := by omega
  simp only [slice, this, List.take_one, List.head?_drop, hx, Option.toList_some]

theorem slice_join {α : Type} (l : List α) (lo mid hi : Nat) (h1 : lo ≤ mid) (h2 : mid + 1 ≤ hi) (x : α)
    (hx : l[mid]? = some x) : slice l lo hi = slice l lo mid ++ x :: slice l (mid+1) hi := by
  rw [← slice_append_slice l h1 (by omega : mid ≤ hi), ← slice_append_slice l (by omega : mid ≤ mid + 1) h2,
    slice_one l mid x hx]
  rfl

theorem slice_append_left {α : Type} (u w : List α) (lo hi : Nat) (h : hi ≤ u.length) :
    slice (u ++ w) lo hi = slice u lo hi := by
  simp only [slice, List.drop_append, List.take_append, List.length_drop]
  rw [show hi - lo - (u.length - lo) = 0 by omega]; simp

theorem slice_append_right {α : Type} (w v : List α) (lo hi : Nat) :
    slice (w ++ v) (lo + w.length) (hi + w.length) = slice v lo hi := by
  have e : hi + w.length - (lo + w.length) = hi - lo := by omega
  simp only [slice, e]
  congr 1
  rw [Nat.add_comm, ← List.drop_drop, List.drop_left]

theorem mem_slice {α : Type} (l : List α) (lo hi : Nat) (c : α) (h : c ∈ slice l lo hi) :
    ∃ k, lo ≤ k ∧ k < hi ∧ l[k]? = some c := by
  obtain ⟨k, hk⟩ := List.mem_iff_getElem?.1 h
  rw [slice_getElem?] at hk
  split at hk
  · exact ⟨lo + k, by omega, by omega, hk⟩
  · simp at hk

theorem mem_of_mem_slice {α : Type} {l : List α} {lo hi : Nat} {c : α} (h : c ∈ slice l lo hi) : c ∈ l :=
  List.mem_of_mem_drop (List.mem_of_mem_take h)

end Lucid
