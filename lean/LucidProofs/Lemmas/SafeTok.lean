/-
  LucidProofs.Lemmas.SafeTok — trap sites of the tokenizer pipelines (`tokenization/mod.rs`, model
  `Lucid.runStepsSafe`). The only trap sites after `normalize` are the word slices `chars[lo..hi]`, and every step
  other than `normalize` keeps `lo ≤ hi ≤ chars.len()` for every word, whatever the patterns and the oracles are:
  any step list free of `normalize` is safe on a text whose words are in range (`runStepsSafeFrom_of_inBounds`).
  `normalize` itself (single-word `panic!`, NUL-padding subtraction) is safe on a fresh text under `TablesOK`.
-/
import LucidModel.Safe
import LucidProofs.Lemmas.Tokenize

namespace Lucid

def Text.InBounds (t : Text) : Prop := ∀ w ∈ t.words, w.lo ≤ w.hi ∧ w.hi ≤ t.chars.length

theorem wordsInBounds_iff (t : Text) : t.wordsInBounds = true ↔ t.InBounds := by
  simp [Text.wordsInBounds, Text.InBounds]

theorem mem_setLastFin {ws : List WordShape} {b : Bool} {w : WordShape} (h : w ∈ setLastFin ws b) :
    ∃ w0 ∈ ws, w.lo = w0.lo ∧ w.hi = w0.hi := by
  fun_induction setLastFin ws b with
  | case1 => simp at h
  | case2 w0 => exact ⟨w0, by simp, by simp_all⟩
  | case3 w0 rest _ ih =>
    rcases List.mem_cons.1 h with rfl | h
    · exact ⟨w, by simp, rfl, rfl⟩
    · obtain ⟨w1, h1, h2⟩ := ih h
      exact ⟨w1, List.mem_cons_of_mem _ h1, h2⟩

theorem mem_renumber {ws : List WordShape} {w : WordShape} (h : w ∈ renumber ws) :
    ∃ w0 ∈ ws, w.lo = w0.lo ∧ w.hi = w0.hi := by
  obtain ⟨⟨w0, i⟩, h0, rfl⟩ := List.mem_map.1 h
  exact ⟨w0, List.fst_mem_of_mem_zipIdx h0, rfl, rfl⟩

theorem TokStep.run_inBounds (E : Env) (st : TokStep) (hst : st ≠ .normalize) (t : Text) (h : t.InBounds) :
    (st.run E t).InBounds := by
  intro w hw
  cases st with
  | normalize => exact absurd rfl hst
  | fin b =>
    obtain ⟨w0, h0, e1, e2⟩ := mem_setLastFin hw
    rw [e1, e2]; exact h w0 h0
  | split ps =>
    obtain ⟨w1, h1, e1, e2⟩ := mem_renumber hw
    obtain ⟨l, hl, h1⟩ := List.mem_flatten.1 h1
    obtain ⟨w0, h0, rfl⟩ := List.mem_map.1 hl
    obtain ⟨x, hx, rfl⟩ := List.mem_map.1 h1
    have := spansOf_bounds _ _ x hx
    have := slice_length_le t.chars w0.lo w0.hi
    have := h w0 h0
    rw [e1, e2]
    show w0.lo + x.1 ≤ w0.lo + x.2 ∧ w0.lo + x.2 ≤ t.chars.length
    omega
  | strip ps =>
    obtain ⟨w1, h1, e1, e2⟩ := mem_renumber hw
    obtain ⟨w0, h0, rfl⟩ := List.mem_map.1 (List.mem_filter.1 h1).1
    rw [e1, e2]
    exact ⟨stripSpan_lo_le_hi (patMatches E ps) t.chars w0.span (h w0 h0).1,
      Nat.le_trans (stripSpan_hi_le (patMatches E ps) t.chars w0.span) (h w0 h0).2⟩
  | lower => simpa [TokStep.run, Text.lower] using h w hw
  | setCharClasses => exact h w hw
  | setPos | setStem =>
    obtain ⟨w0, h0, rfl⟩ := List.mem_map.1 hw
    exact h w0 h0

theorem runStepsSafeFrom_of_inBounds (E : Env) (steps : List TokStep) (hn : TokStep.normalize ∉ steps) (t : Text)
    (h : t.InBounds) : runStepsSafeFrom E steps t = true := by
  induction steps generalizing t with
  | nil => rfl
  | cons st rest ih =>
    have hst : st ≠ .normalize := fun e => hn (e ▸ List.mem_cons_self)
    rw [runStepsSafeFrom, ih (fun hm => hn (List.mem_cons_of_mem _ hm)) _ (st.run_inBounds E hst t h), Bool.and_true]
    cases st <;> first | rfl | exact (wordsInBounds_iff t).2 h | exact absurd rfl hst

theorem runStepsSafe_normalize_cons (E : Env) (hT : TablesOK E.T = true) (rest : List TokStep)
    (hn : TokStep.normalize ∉ rest) (s : List Nat) : runStepsSafe E (.normalize :: rest) s = true := by
  rw [runStepsSafe, runStepsSafeFrom, runStepsSafeFrom_of_inBounds E rest hn, Bool.and_true]
  · exact normalizeSafe_fromChars E hT s
  · show ((Text.fromChars s).normalize E).InBounds
    rw [normalize_fromChars_shape]
    intro w hw
    rw [List.mem_singleton.1 hw]
    exact ⟨Nat.zero_le _, Nat.le_refl _⟩

/-- **`tokenize_query` never traps** -/
theorem runStepsSafe_query (E : Env) (hT : TablesOK E.T = true) (s : List Nat) :
    runStepsSafe E Gen.srcQuerySteps s = true :=
  runStepsSafe_normalize_cons E hT _ (by decide) s

/-- **`tokenize_record` never traps** -/
theorem runStepsSafe_record (E : Env) (hT : TablesOK E.T = true) (s : List Nat) :
    runStepsSafe E Gen.srcRecordSteps s = true :=
  runStepsSafe_normalize_cons E hT _ (by decide) s

end Lucid
