/-
  LucidProofs.Lemmas.DamlevChecked — the bounds-checked variant of the distance loops
  (`LucidModel.DamlevChecked`: every `get_unchecked`/`set_unchecked` on the matrix checks row and column
  separately against the current dimension, every cost/character read is checked) never fails and
  computes exactly what the unchecked loops compute — for every prior matrix state and all words that carry one cost
  per character (`Aligned`).
-/
import LucidModel.DamlevChecked
import LucidProofs.Lemmas.DamlevRefine

namespace Lucid
namespace DL

theorem getC_some {m : Mat} {i j : Nat} (hi : i < m.size) (hj : j < m.size) : m.getC i j = some (m.get i j) :=
  if_pos ⟨hi, hj⟩

theorem setC_some {m : Mat} {i j : Nat} (v : Nat) (hi : i < m.size) (hj : j < m.size) :
    m.setC i j v = some (m.set i j v) :=
  if_pos ⟨hi, hj⟩

def initStepC1 (m : Mat) (i : Nat) : Option Mat :=
  match m.setC i 0 (10 * m.size) with
  | some m1 => m1.setC 0 i (10 * m1.size)
  | none => none

def initStepC2 (m : Mat) (i : Nat) : Option Mat :=
  match m.setC i 1 (10 * (i - 1)) with
  | some m1 => m1.setC 1 i (10 * (i - 1))
  | none => none

theorem initC_eq' (m : Mat) (h : m.size ≠ 0) :
    m.initC = match foldlO initStepC1 m (List.range m.size) with
      | none => none
      | some m => foldlO initStepC2 m (List.range' 1 (m.size - 1)) := by
  unfold Mat.initC; rw [if_neg h]; rfl

theorem initStepC1_some {m : Mat} {i : Nat} (hi : i < m.size) : initStepC1 m i = some (initStep1 m i) := by
  have h0 : 0 < m.size := Nat.lt_of_le_of_lt (Nat.zero_le i) hi
  rw [initStepC1, setC_some _ hi h0]; exact setC_some _ h0 hi

theorem initStepC2_some {m : Mat} {i : Nat} (h1 : 1 < m.size) (hi : i < m.size) :
    initStepC2 m i = some (initStep2 m i) := by
  rw [initStepC2, setC_some _ hi h1]; exact setC_some _ h1 hi

theorem initC_spec (m : Mat) : m.initC = some m.init ∧ m.init.size = m.size := by
  by_cases h : m.size = 0
  · simp [Mat.initC, Mat.init, h]
  · rw [initC_eq' m h, init_eq m h]
    obtain ⟨e1, hs1⟩ := foldlO_ind initStepC1 initStep1 id (List.range m.size) (fun _ m1 => m1.size = m.size)
      m.size m (by simp) (range_get _) rfl (fun k hk m1 hs => ⟨initStepC1_some (hs ▸ hk), hs⟩)
    rw [e1]; simp only []
    generalize (List.range m.size).foldl initStep1 m = m1 at hs1
    exact foldlO_ind initStepC2 initStep2 (· + 1) (List.range' 1 (m1.size - 1))
      (fun _ m2 => m2.size = m.size) (m1.size - 1) m1 (by simp) (range1_get _) hs1
      (fun k hk m2 hs => ⟨initStepC2_some (by omega) (by omega), hs⟩)

theorem growC_spec (m : Mat) (need : Nat) :
    m.growC need = some (m.grow need) ∧ need ≤ (m.grow need).size ∧ m.size ≤ (m.grow need).size := by
  unfold Mat.growC Mat.grow
  split
  · have := initC_spec { size := need + need / 2, raw := arrResize m.raw ((need + need / 2) * (need + need / 2)) }
    simp only [] at this ⊢
    refine ⟨this.1, ?_, ?_⟩ <;> rw [this.2] <;> (try simp only []) <;> omega
  · exact ⟨rfl, by omega, Nat.le_refl _⟩

def prepStepC1 (m : Mat) (p : Nat × Nat) : Option Mat :=
  match m.getC (p.2 + 1) 1 with
  | some prev => m.setC (p.2 + 2) 1 (prev + p.1)
  | none => none

def prepStepC2 (m : Mat) (p : Nat × Nat) : Option Mat :=
  match m.getC 1 (p.2 + 1) with
  | some prev => m.setC 1 (p.2 + 2) (prev + p.1)
  | none => none

theorem prepareC_eq' (m : Mat) (c1 c2 : List Nat) :
    m.prepareC c1 c2 = match m.growC (max (c1.length + 2) (c2.length + 2)) with
      | none => none
      | some m =>
        match foldlO prepStepC1 m c1.zipIdx with
        | none => none
        | some m => foldlO prepStepC2 m c2.zipIdx := rfl

theorem prepStepC1_some {m : Mat} {p : Nat × Nat} (h : p.2 + 2 < m.size) : prepStepC1 m p = some (prepStep1 m p) := by
  have h1 : 1 < m.size := by omega
  rw [prepStepC1, getC_some (by omega) h1]; exact setC_some _ h h1

theorem prepStepC2_some {m : Mat} {p : Nat × Nat} (h : p.2 + 2 < m.size) : prepStepC2 m p = some (prepStep2 m p) := by
  have h1 : 1 < m.size := by omega
  rw [prepStepC2, getC_some h1 (by omega)]; exact setC_some _ h1 h

theorem prepareC_spec (m : Mat) (c1 c2 : List Nat) :
    m.prepareC c1 c2 = some (m.prepare c1 c2) ∧
    max (c1.length + 2) (c2.length + 2) ≤ (m.prepare c1 c2).size ∧ m.size ≤ (m.prepare c1 c2).size := by
  rw [prepareC_eq', prepare_eq]
  obtain ⟨eg, hneed, hmono⟩ := growC_spec m (max (c1.length + 2) (c2.length + 2))
  rw [eg]; simp only []
  generalize m.grow (max (c1.length + 2) (c2.length + 2)) = m0 at hneed hmono
  have hn1 : c1.length + 2 ≤ m0.size := Nat.le_trans (Nat.le_max_left _ _) hneed
  have hn2 : c2.length + 2 ≤ m0.size := Nat.le_trans (Nat.le_max_right _ _) hneed
  obtain ⟨e1, hs1⟩ := foldlO_ind prepStepC1 prepStep1 (fun k => (c1.getD k 0, k)) c1.zipIdx
    (fun _ m1 => m1.size = m0.size) c1.length m0 (by simp) (zipIdx_get _) rfl
    (fun k hk m1 hs => ⟨prepStepC1_some (by rw [hs]; omega), hs⟩)
  rw [e1]; simp only []
  generalize c1.zipIdx.foldl prepStep1 m0 = m1 at hs1
  obtain ⟨e2, hs2⟩ := foldlO_ind prepStepC2 prepStep2 (fun k => (c2.getD k 0, k)) c2.zipIdx
    (fun _ m2 => m2.size = m0.size) c2.length m1 (by simp) (zipIdx_get _) hs1
    (fun k hk m2 hs => ⟨prepStepC2_some (by rw [hs]; omega), hs⟩)
  exact ⟨e2, hs2 ▸ hneed, hs2 ▸ hmono⟩

theorem ch_get (w : CWord) (i : Nat) (h : i < w.len) : w.ch[i]? = some (w.c i) := by
  unfold CWord.len at h
  simp [CWord.c, List.getD, h]

theorem cost_get (w : CWord) (hw : Aligned w) (i : Nat) (h : i < w.len) : w.cost[i]? = some (w.k i) := by
  unfold CWord.len at h; unfold Aligned at hw
  have : i < w.cost.length := by omega
  simp [CWord.k, List.getD, this]

/-- the read of the preceding character, which the source guards by `i > 0` -/
theorem prev_get (w : CWord) (i : Nat) (h : i < w.len) :
    (if i > 0 then w.ch[i - 1]? else some 0) = some (if i > 0 then w.c (i - 1) else 0) := by
  split
  · exact ch_get w (i - 1) (by omega)
  · rfl

theorem dbl_prev (w : CWord) (i : Nat) :
    (decide (i > 0) && (w.c i == if i > 0 then w.c (i - 1) else 0)) = dbl w i := by
  unfold dbl; by_cases h : i > 0 <;> simp [h]

theorem dlInnerC_some (K : Consts) (a b : CWord) (ha : Aligned a) (hb : Aligned b) (i1 i2 : Nat)
    (hi : i1 < a.len) (hj : i2 < b.len) (last : List (Nat × Nat)) (hlast : ∀ c, lastGet last c ≤ i1)
    (st : Mat × Nat) (hSa : a.len + 2 ≤ st.1.size) (hSb : b.len + 2 ≤ st.1.size) (hl2 : st.2 ≤ i2) :
    dlInnerC K a b i1 last st i2 = some (dlInner K a b i1 last st i2) := by
  obtain ⟨m, l2⟩ := st
  simp only [] at hSa hSb hl2
  have r2 : i1 + 2 < m.size := by omega
  have c2 : i2 + 2 < m.size := by omega
  have r1 : i1 + 1 < m.size := Nat.lt_of_succ_lt r2
  have c1 : i2 + 1 < m.size := Nat.lt_of_succ_lt c2
  have hl1 : lastGet last (b.c i2) < m.size := Nat.lt_of_le_of_lt (hlast _) (Nat.lt_of_succ_lt r1)
  have hl2 : l2 < m.size := Nat.lt_of_le_of_lt hl2 (Nat.lt_of_succ_lt c1)
  unfold dlInnerC
  simp only [ch_get a i1 hi, ch_get b i2 hj, cost_get a ha i1 hi, cost_get b hb i2 hj, prev_get a i1 hi,
    prev_get b i2 hj, dbl_prev, getC_some r2 c1, getC_some r1 c2, getC_some r1 c1, getC_some hl1 hl2,
    setC_some _ r2 c2]
  rfl

/-- the bounds on the two indices the loops carry come from what they are (`dlInner_snd`, `dlOuter_snd`) -/
theorem dlOuterC_some (K : Consts) (a b : CWord) (ha : Aligned a) (hb : Aligned b)
    (S i1 : Nat) (hSa : a.len + 2 ≤ S) (hSb : b.len + 2 ≤ S) (hi : i1 < a.len)
    (st : Mat × List (Nat × Nat)) (hsz : st.1.size = S) (hlast : ∀ c, lastGet st.2 c = lastOcc a.ch i1 c) :
    dlOuterC K a b st i1 = some (dlOuter K a b st i1) ∧ (dlOuter K a b st i1).1.size = S := by
  obtain ⟨e, hs, _⟩ := foldlO_ind (dlInnerC K a b i1 st.2) (dlInner K a b i1 st.2) id (List.range b.len)
    (fun j s => s.1.size = S ∧ s.2 = lastOcc b.ch j (a.c i1)) b.len (st.1, 0) (by simp) (range_get _) ⟨hsz, rfl⟩
    (fun j hj s hs => ⟨dlInnerC_some K a b ha hb i1 j hi hj st.2 (fun c => hlast c ▸ lastOcc_le _ _ _) s
      (hs.1 ▸ hSa) (hs.1 ▸ hSb) (hs.2 ▸ lastOcc_le _ _ _), hs.1, dlInner_snd K a b i1 j st.2 s hs.2⟩)
  unfold dlOuterC dlOuter
  rw [e]
  exact ⟨rfl, hs⟩

/-- C19 (distance matrix and cost vectors): no checked access of a `distance` call ever fails, and the
    checked run equals the unchecked one — for every matrix state (nothing is assumed about `m`) and all
    words that carry one cost per character. The matrix ends at least as large as `prepare` needs it. -/
theorem distanceC_spec (K : Consts) (m : Mat) (a b : CWord) (ha : Aligned a) (hb : Aligned b) :
    distanceC K m a b = some (distanceM K m a b) ∧ max a.len b.len + 2 ≤ (distanceM K m a b).2.size := by
  obtain ⟨ep, hneed, _⟩ := prepareC_spec m a.cost b.cost
  have hSa : a.len + 2 ≤ _ := (show a.cost.length = a.len from ha) ▸ Nat.le_trans (Nat.le_max_left _ _) hneed
  have hSb : b.len + 2 ≤ _ := (show b.cost.length = b.len from hb) ▸ Nat.le_trans (Nat.le_max_right _ _) hneed
  obtain ⟨eo, hs, _⟩ := foldlO_ind (dlOuterC K a b) (dlOuter K a b) id (List.range a.len)
    (fun i st => st.1.size = (m.prepare a.cost b.cost).size ∧ ∀ c, lastGet st.2 c = lastOcc a.ch i c) a.len
    (m.prepare a.cost b.cost, []) (by simp) (range_get _) ⟨rfl, fun c => rfl⟩
    (fun i hi st hst => by
      obtain ⟨e, h1⟩ := dlOuterC_some K a b ha hb _ i hSa hSb hi st hst.1 hst.2
      exact ⟨e, h1, dlOuter_snd K a b i st hst.2⟩)
  refine ⟨?_, by unfold distanceM; rw [hs]; omega⟩
  unfold distanceC distanceM
  rw [ep]; simp only []
  rw [eo]; simp only []
  rw [getC_some (by omega) (by omega)]

def runCallsC (K : Consts) : Mat → List (CWord × CWord) → Option (List Nat × Mat)
  | m, [] => some ([], m)
  | m, (a, b) :: rest =>
    match distanceC K m a b with
    | none => none
    | some r =>
      match runCallsC K r.2 rest with
      | none => none
      | some rs => some (r.1 :: rs.1, rs.2)

theorem runCallsC_eq (K : Consts) (calls : List (CWord × CWord))
    (hc : ∀ p ∈ calls, Aligned p.1 ∧ Aligned p.2) :
    ∀ m, runCallsC K m calls = some (runCalls K m calls) := by
  induction calls with
  | nil => intro m; rfl
  | cons p rest ih =>
    intro m
    obtain ⟨a, b⟩ := p
    obtain ⟨ha, hb⟩ := hc (a, b) (by simp)
    have := ih (fun q hq => hc q (by simp [hq])) (distanceM K m a b).2
    simp only [runCallsC, (distanceC_spec K m a b ha hb).1, this]
    rfl

end DL
end Lucid
