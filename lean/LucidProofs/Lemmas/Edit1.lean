/-
  LucidProofs.Lemmas.Edit1 — one typing error on a list of characters (`Edit1 w w'`: substitute one character by a
  different one, insert one, delete one, swap two adjacent different ones) and what it does to the quantities the
  matcher looks at: lengths differ by at most one, each side has at most one character value the other lacks, the two
  words share a gram of `Lucid.trigrams` when the original has at least five characters (`Edit1.shares_gram`), and the
  error is an edit script of cost 1 (`Edit1.dlScript`), hence `DL.D ≤ 10`, one full-cost typo (`DL.D_edit1_le`).
-/
import LucidProofs.Lemmas.Index
import LucidProofs.Lemmas.EditScripts

namespace Lucid

/-- `Edit1 w w'`: `w'` is `w` with one typing error -/
inductive Edit1 : List Nat → List Nat → Prop where
  | sub (x y : List Nat) (a b : Nat) (h : a ≠ b) : Edit1 (x ++ a :: y) (x ++ b :: y)
  | ins (x y : List Nat) (c : Nat) : Edit1 (x ++ y) (x ++ c :: y)
  | del (x y : List Nat) (c : Nat) : Edit1 (x ++ c :: y) (x ++ y)
  | swap (x y : List Nat) (a b : Nat) (h : a ≠ b) : Edit1 (x ++ a :: b :: y) (x ++ b :: a :: y)

namespace Edit1

theorem symm {w w' : List Nat} (h : Edit1 w w') : Edit1 w' w := by
  cases h with
  | sub x y a b h => exact sub x y b a (fun e => h e.symm)
  | ins x y c => exact del x y c
  | del x y c => exact ins x y c
  | swap x y a b h => exact swap x y b a (fun e => h e.symm)

theorem length_le {w w' : List Nat} (h : Edit1 w w') : w'.length ≤ w.length + 1 := by
  cases h <;> simp only [List.length_append, List.length_cons] <;> omega

theorem length_ge {w w' : List Nat} (h : Edit1 w w') : w.length ≤ w'.length + 1 := h.symm.length_le

/-- at most one character value of `w` is missing from `w'`: the one substituted or deleted -/
theorem extra_left {w w' : List Nat} (h : Edit1 w w') : ∃ c, ∀ z, z ∈ w → z ∉ w' → z = c := by
  cases h with
  | sub x y a b h => exact ⟨a, by simp only [List.mem_append, List.mem_cons]; grind⟩
  | ins x y c => exact ⟨0, by simp only [List.mem_append, List.mem_cons]; grind⟩
  | del x y c => exact ⟨c, by simp only [List.mem_append, List.mem_cons]; grind⟩
  | swap x y a b h => exact ⟨0, by simp only [List.mem_append, List.mem_cons]; grind⟩

theorem extra_right {w w' : List Nat} (h : Edit1 w w') : ∃ c, ∀ z, z ∈ w' → z ∉ w → z = c := h.symm.extra_left

theorem mem_windows3_cons {g : Gram} (c : Nat) : ∀ (l : List Nat), g ∈ windows3 l → g ∈ windows3 (c :: l)
  | [], h => by simp [windows3] at h
  | [_], h => by simp [windows3] at h
  | [_, _], h => by simp [windows3] at h
  | a :: b :: d :: rest, h => by
    rw [windows3]
    exact List.mem_cons_of_mem _ h

theorem window_gram (p : List Nat) (a b c : Nat) (l : List Nat) : (a, b, c) ∈ trigrams (p ++ a :: b :: c :: l) := by
  refine List.mem_append_right _ ?_
  induction p with
  | nil => rw [List.nil_append, windows3]; exact List.mem_cons_self
  | cons d p ih => exact mem_windows3_cons d _ ih

theorem common_ends {w w' : List Nat} (h : Edit1 w w') :
    ∃ x p p' y, w = x ++ (p ++ y) ∧ w' = x ++ (p' ++ y) ∧ p.length ≤ 2 := by
  cases h with
  | sub x y a b _ => exact ⟨x, [a], [b], y, rfl, rfl, Nat.le_succ 1⟩
  | ins x y c => exact ⟨x, [], [c], y, rfl, rfl, Nat.zero_le 2⟩
  | del x y c => exact ⟨x, [c], [], y, rfl, rfl, Nat.le_succ 1⟩
  | swap x y a b _ => exact ⟨x, [a, b], [b, a], y, rfl, rfl, Nat.le_refl 2⟩

/-- **gram lemma**: a word of at least five characters and the same word with one typing error share a gram.
    An error after the first character leaves the gram `(c0, NUL, NUL)`; an error at the first character touches at
    most two characters and leaves a window of three untouched ones further right (hence five). -/
theorem shares_gram {w w' : List Nat} (h : Edit1 w w') (hlen : 5 ≤ w.length) :
    ∃ g, g ∈ trigrams w ∧ g ∈ trigrams w' := by
  obtain ⟨x, p, p', y, rfl, rfl, hp⟩ := h.common_ends
  cases x with
  | cons c x => exact ⟨(c, 0, 0), head_mem_trigrams _ _, head_mem_trigrams _ _⟩
  | nil =>
    match y, (show 3 ≤ y.length by rw [List.nil_append, List.length_append] at hlen; omega) with
    | y0 :: y1 :: y2 :: rest, _ => exact ⟨(y0, y1, y2), window_gram p _ _ _ _, window_gram p' _ _ _ _⟩

end Edit1

open DL

theorem Edit1.levScript_or_swap {w w' : List Nat} (h : Edit1 w w') :
    LevScript w w' 1 ∨ ∃ x y a b, w = x ++ a :: b :: y ∧ w' = x ++ b :: a :: y ∧ a ≠ b := by
  cases h with
  | sub x y a b h => exact .inl (.around x (.sub a b (.refl y)))
  | ins x y c => exact .inl (.around x (.ins c (.refl y)))
  | del x y c => exact .inl (.around x (.del c (.refl y)))
  | swap x y a b h => exact .inr ⟨x, y, a, b, rfl, rfl, h⟩

/-- **Levenshtein bound**: substitution, insertion and deletion are one plain edit step. (A swap is two plain steps;
    the model's distance prices it through its transposition branch, see `DL.D_edit1_le`.) -/
theorem Edit1.lev_le_one {w w' : List Nat} (h : Edit1 w w')
    (hns : ∀ x y a b, ¬ (w = x ++ a :: b :: y ∧ w' = x ++ b :: a :: y ∧ a ≠ b)) :
    DL.lev w w' w.length w'.length ≤ 1 := by
  rcases h.levScript_or_swap with hs | ⟨x, y, a, b, e⟩
  · exact lev_sound hs
  · exact absurd e (hns x y a b)

theorem Edit1.dlScript {w w' : List Nat} (h : Edit1 w w') : DLScript w w' 1 := by
  rcases h.levScript_or_swap with hs | ⟨x, y, a, b, rfl, rfl, _⟩
  · exact .of_lev hs
  · exact ((DLScript.of_lev (.refl x)).append (.trans b a [] [] (.of_lev (.refl y)))).cast rfl rfl (by simp)

theorem shares_gram_of_edit1 {rt qt : Text} {w v : WordShape} (hw : w ∈ rt.words) (hv : v ∈ qt.words)
    (h5 : 5 ≤ (wchars rt w).length) (hed : Edit1 (wchars rt w) (wchars qt v)) :
    ∃ g ∈ collectGrams qt, g ∈ collectGrams rt := by
  obtain ⟨g, hg1, hg2⟩ := hed.shares_gram h5
  exact ⟨g, mem_collectGrams.mpr ⟨v, hv, hg2⟩, mem_collectGrams.mpr ⟨w, hw, hg1⟩⟩

/-- **distance bound**: the weighted distance between a word and the same word with one typing error is at most
    1.0 (ten tenths), whatever the character classes are: it is at most 1.0 per unit of any script with
    transpositions (`D_le_DLunit`, `dlunit_sound`) -/
theorem DL.D_edit1_le (K : Consts) (hK : KOK K) (a b : CWord) (ha : CostLe a) (hb : CostLe b)
    (h : Edit1 b.ch a.ch) : D K a b a.len b.len ≤ 10 := by
  have h1 := D_le_DLunit K (by rw [hK.trans]; omega) a b ha hb a.len b.len
  have h2 : DLunit a.ch b.ch a.len b.len ≤ 1 := dlunit_sound h.symm.dlScript
  omega

end Lucid
