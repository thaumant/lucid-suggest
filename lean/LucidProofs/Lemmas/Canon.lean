/-
  LucidProofs.Lemmas.Canon — the languages' compose tables against an INDEPENDENT reference for Unicode's
  canonical decomposition.

  `Lucid.Gen.canonPairs` (`LucidModel/Gen/Canon.lean`) is generated from Python's `unicodedata`, not from the
  repository: `(composed, base, mark)` for the 870 scalars below U+3000 that have a two-scalar canonical
  decomposition which NFC re-composes.  The C11b theorems speak of "decomposed form" relative to the language's
  own compose table (`decompChar`/`decompAt`: the key of the first table entry producing the letter), so a table
  that composed `I` + U+0308 to `Î` would satisfy them.  Here we tie the tables to the reference: under the
  conditions `ComposeCanonical` and `InventoryComposed`, both kernel-checked for all seven generated languages,
      `decompAt T.compose s mask = uniDecompAt T s mask`
  where `uniDecompAt` writes the selected letters of the language's accent inventory (`inInventory`) in
  *Unicode's* canonical decomposition (`canonDecomp`), and leaves every other character alone.
-/
import LucidModel.Gen.Canon
import LucidProofs.Lemmas.NormVariants

namespace Lucid

/-- Unicode's canonical decomposition of `c` into `(base, mark)`, if `c` has a two-scalar one that NFC
    re-composes (lookup in the reference table) -/
def canonDecomp (c : Nat) : Option (Nat × Nat) :=
  (Gen.canonPairs.find? (fun p => p.1 == c)).map (fun p => (p.2.1, p.2.2))

/-- linear-time check: first components strictly ascending and all `≥ lo` -/
def ascFrom : Nat → List (Nat × Nat × Nat) → Bool
  | _, [] => true
  | lo, p :: rest => decide (lo ≤ p.1) && ascFrom (p.1 + 1) rest

theorem ascFrom_lb {lo : Nat} {l : List (Nat × Nat × Nat)} (h : ascFrom lo l = true) :
    ∀ q ∈ l, lo ≤ q.1 := by
  induction l generalizing lo with
  | nil => intro q hq; cases hq
  | cons p rest ih =>
    simp only [ascFrom, Bool.and_eq_true, decide_eq_true_eq] at h
    intro q hq
    rcases List.mem_cons.1 hq with rfl | hq
    · exact h.1
    · have := ih h.2 q hq
      omega

theorem ascFrom_pairwise {lo : Nat} {l : List (Nat × Nat × Nat)} (h : ascFrom lo l = true) :
    (l.map (·.1)).Pairwise (· < ·) := by
  induction l generalizing lo with
  | nil => exact List.Pairwise.nil
  | cons p rest ih =>
    simp only [ascFrom, Bool.and_eq_true, decide_eq_true_eq] at h
    rw [List.map_cons, List.pairwise_cons]
    refine ⟨?_, ih h.2⟩
    intro x hx
    obtain ⟨q, hq, rfl⟩ := List.mem_map.1 hx
    have := ascFrom_lb h.2 q hq
    omega

theorem find?_of_ascFrom {lo : Nat} {l : List (Nat × Nat × Nat)} (h : ascFrom lo l = true)
    {q : Nat × Nat × Nat} (hq : q ∈ l) : l.find? (fun p => p.1 == q.1) = some q := by
  induction l generalizing lo with
  | nil => cases hq
  | cons p rest ih =>
    simp only [ascFrom, Bool.and_eq_true, decide_eq_true_eq] at h
    rcases List.mem_cons.1 hq with rfl | hq'
    · simp
    · have hlt := ascFrom_lb h.2 q hq'
      have hne : (p.1 == q.1) = false := by
        rw [beq_eq_false_iff_ne]; omega
      rw [List.find?_cons, hne]
      exact ih h.2 hq'

theorem canonPairs_asc : ascFrom 0 Gen.canonPairs = true := by decide +kernel

theorem canonPairs_nodup : (Gen.canonPairs.map (·.1)).Nodup :=
  (ascFrom_pairwise canonPairs_asc).imp (fun h => Nat.ne_of_lt h)

theorem canonDecomp_of_mem {c a k : Nat} (h : (c, a, k) ∈ Gen.canonPairs) : canonDecomp c = some (a, k) := by
  unfold canonDecomp
  rw [find?_of_ascFrom canonPairs_asc h]
  rfl

theorem mem_of_canonDecomp {c a k : Nat} (h : canonDecomp c = some (a, k)) : (c, a, k) ∈ Gen.canonPairs := by
  unfold canonDecomp at h
  cases hf : Gen.canonPairs.find? (fun p => p.1 == c) with
  | none => rw [hf] at h; cases h
  | some p =>
    rw [hf] at h
    simp only [Option.map_some, Option.some.injEq, Prod.mk.injEq] at h
    have hm := List.mem_of_find?_eq_some hf
    have hc : p.1 = c := by simpa using List.find?_some hf
    obtain ⟨p1, p2, p3⟩ := p
    simp only at h hc
    rw [← hc, ← h.1, ← h.2]
    exact hm

/-- every entry of the compose table is `([base, mark], [composed])` with `(composed, base, mark)` in the
    reference table: the language composes exactly canonical pairs, to exactly their canonical composition -/
def ComposeCanonical (m : List (List Nat × List Nat)) : Bool :=
  m.all (fun e =>
    match e.1, e.2 with
    | [a, k], [c] => Gen.canonPairs.contains (c, a, k)
    | _, _ => false)

theorem ComposeCanonical.entry {m : List (List Nat × List Nat)} (hCC : ComposeCanonical m = true)
    {e : List Nat × List Nat} (he : e ∈ m) :
    ∃ a k c, e = ([a, k], [c]) ∧ canonDecomp c = some (a, k) := by
  have h := (List.all_eq_true.1 hCC) e he
  obtain ⟨key, val⟩ := e
  match key, val, h with
  | [a, k], [c], h => exact ⟨a, k, c, rfl, canonDecomp_of_mem (List.contains_iff_mem.1 h)⟩

theorem ComposeCanonical.key_of_val {m : List (List Nat × List Nat)} (hCC : ComposeCanonical m = true)
    {e : List Nat × List Nat} (he : e ∈ m) {c : Nat} (hv : (e.2 == [c]) = true) :
    ∃ a k, e = ([a, k], [c]) ∧ canonDecomp c = some (a, k) := by
  obtain ⟨a, k, c', rfl, h⟩ := ComposeCanonical.entry hCC he
  cases (beq_iff_eq.1 hv : [c'] = [c])
  exact ⟨a, k, rfl, h⟩

/-- `c` belongs to the language's own accent inventory: it is produced by a compose entry or folded by a
    reduce entry -/
def inInventory (T : LangTables) (c : Nat) : Bool :=
  T.compose.any (fun e => e.2 == [c]) || T.reduce.any (fun e => e.1 == [c])

/-- every single-character reduce key that has a canonical decomposition is the replacement of some compose
    entry: the compose table covers the decomposable letters of the inventory -/
def InventoryComposed (T : LangTables) : Bool :=
  T.reduce.all (fun e =>
    match e.1 with
    | [c] => (canonDecomp c).isNone || T.compose.any (fun e' => e'.2 == [c])
    | _ => true)

theorem InventoryComposed.key {T : LangTables} (hIC : InventoryComposed T = true) {c : Nat}
    (hr : T.reduce.any (fun e => e.1 == [c]) = true) :
    canonDecomp c = none ∨ T.compose.any (fun e => e.2 == [c]) = true := by
  obtain ⟨e, he, hk⟩ := List.any_eq_true.1 hr
  have hk' : e.1 = [c] := by simpa using hk
  have h := (List.all_eq_true.1 hIC) e he
  rw [hk'] at h
  simp only [Bool.or_eq_true, Option.isNone_iff_eq_none] at h
  exact h

theorem composeCanonical_none : ComposeCanonical Gen.lang_none.compose = true := by decide +kernel
theorem composeCanonical_de : ComposeCanonical Gen.lang_de.compose = true := by decide +kernel
theorem composeCanonical_en : ComposeCanonical Gen.lang_en.compose = true := by decide +kernel
theorem composeCanonical_es : ComposeCanonical Gen.lang_es.compose = true := by decide +kernel
theorem composeCanonical_fr : ComposeCanonical Gen.lang_fr.compose = true := by decide +kernel
theorem composeCanonical_pt : ComposeCanonical Gen.lang_pt.compose = true := by decide +kernel
theorem composeCanonical_ru : ComposeCanonical Gen.lang_ru.compose = true := by decide +kernel

theorem inventoryComposed_none : InventoryComposed Gen.lang_none = true := by decide +kernel
theorem inventoryComposed_de : InventoryComposed Gen.lang_de = true := by decide +kernel
theorem inventoryComposed_en : InventoryComposed Gen.lang_en = true := by decide +kernel
theorem inventoryComposed_es : InventoryComposed Gen.lang_es = true := by decide +kernel
theorem inventoryComposed_fr : InventoryComposed Gen.lang_fr = true := by decide +kernel
theorem inventoryComposed_pt : InventoryComposed Gen.lang_pt = true := by decide +kernel
theorem inventoryComposed_ru : InventoryComposed Gen.lang_ru = true := by decide +kernel

theorem composeCanonical_src (name : String) (T : LangTables) (h : (name, T) ∈ Gen.srcLangs) :
    ComposeCanonical T.compose = true :=
  forall_srcLangs (C := fun T => ComposeCanonical T.compose = true) composeCanonical_none composeCanonical_de
    composeCanonical_en composeCanonical_es composeCanonical_fr composeCanonical_pt composeCanonical_ru h

theorem inventoryComposed_src (name : String) (T : LangTables) (h : (name, T) ∈ Gen.srcLangs) :
    InventoryComposed T = true :=
  forall_srcLangs (C := fun T => InventoryComposed T = true) inventoryComposed_none inventoryComposed_de
    inventoryComposed_en inventoryComposed_es inventoryComposed_fr inventoryComposed_pt inventoryComposed_ru h

/-- Unicode's canonical decomposition of `c` if `c` is a letter of the language's accent inventory (and has
    one); any other character is left alone -/
def uniDecompChar (T : LangTables) (c : Nat) : List Nat :=
  if inInventory T c then
    (match canonDecomp c with
     | some (a, k) => [a, k]
     | none => [c])
  else [c]

/-- `s` with the characters at the positions selected by `mask` replaced by Unicode's canonical decomposition
    (inventory letters only; positions beyond the end of `mask` are left alone) -/
def uniDecompAt (T : LangTables) : List Nat → List Bool → List Nat
  | [], _ => []
  | c :: cs, bs => (if bs.headD false then uniDecompChar T c else [c]) ++ uniDecompAt T cs bs.tail

theorem compose_entry_of_inventory {T : LangTables} (hCC : ComposeCanonical T.compose = true)
    (hIC : InventoryComposed T = true) {c a k : Nat} (hin : inInventory T c = true)
    (hd : canonDecomp c = some (a, k)) : ([a, k], [c]) ∈ T.compose := by
  have hany : T.compose.any (fun e => e.2 == [c]) = true :=
    (Bool.or_eq_true_iff.1 hin).elim id fun h =>
      (InventoryComposed.key hIC h).resolve_left (by rw [hd]; exact nofun)
  obtain ⟨e, he, hv⟩ := List.any_eq_true.1 hany
  obtain ⟨a', k', rfl, h⟩ := ComposeCanonical.key_of_val hCC he hv
  cases hd.symm.trans h
  exact he

theorem decompChar_eq_uni (T : LangTables) (hCC : ComposeCanonical T.compose = true)
    (hIC : InventoryComposed T = true) (c : Nat) : decompChar T.compose c = uniDecompChar T c := by
  unfold decompChar uniDecompChar inInventory
  cases hf : T.compose.find? (fun e => e.2 == [c]) with
  | some e =>
    have he : e ∈ T.compose := List.mem_of_find?_eq_some hf
    have hv := List.find?_some hf
    obtain ⟨a, k, rfl, h⟩ := ComposeCanonical.key_of_val hCC he hv
    rw [List.any_eq_true.2 ⟨_, he, hv⟩, Bool.true_or, if_pos rfl, h]
  | none =>
    have hno : T.compose.any (fun e => e.2 == [c]) = false :=
      Bool.eq_false_iff.2 fun h => by
        obtain ⟨e, he, hv⟩ := List.any_eq_true.1 h
        exact List.find?_eq_none.1 hf e he hv
    cases hr : T.reduce.any (fun e => e.1 == [c]) with
    | false => simp only [hno, Bool.or_self, Bool.false_eq_true, if_false]
    | true =>
      rcases InventoryComposed.key hIC hr with h' | h'
      · simp only [hno, Bool.false_or, if_true, h']
      · rw [hno] at h'; cases h'

theorem decompAt_eq_uni (T : LangTables) (hCC : ComposeCanonical T.compose = true)
    (hIC : InventoryComposed T = true) (s : List Nat) (mask : List Bool) :
    decompAt T.compose s mask = uniDecompAt T s mask := by
  induction s generalizing mask with
  | nil => rfl
  | cons c cs ih => simp only [decompAt, uniDecompAt, decompChar_eq_uni T hCC hIC c, ih]

theorem decompAt_eq_uni_src {name : String} {T : LangTables} (hT : (name, T) ∈ Gen.srcLangs) (s : List Nat)
    (mask : List Bool) : decompAt T.compose s mask = uniDecompAt T s mask :=
  decompAt_eq_uni T (composeCanonical_src name T hT) (inventoryComposed_src name T hT) s mask

theorem composeWith_canon_pair {T : LangTables} (hC : ComposeClosed T.compose = true)
    (hCC : ComposeCanonical T.compose = true) (hIC : InventoryComposed T = true) {c a k : Nat}
    (hin : inInventory T c = true) (hd : canonDecomp c = some (a, k)) : composeWith T.compose [a, k] = [c] := by
  have he := compose_entry_of_inventory hCC hIC hin hd
  obtain ⟨b, x, h1, _, h3⟩ := ComposeClosed.entry hC he
  simp only [List.cons.injEq, and_true] at h1
  obtain ⟨rfl, rfl⟩ := h1
  rw [composeWith_cons_pair T.compose a k [c] [] h3]
  rfl

end Lucid
