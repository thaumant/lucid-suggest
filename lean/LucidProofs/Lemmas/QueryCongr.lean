/-
  LucidProofs.Lemmas.QueryCongr — the search pipeline reads a query only through its words:
  their characters, classes, `offset`/`stem`/`pos`/`fin` and the gaps between them. Shifting every
  word (and the character / class arrays under the words) by a constant `d`, and changing `source`
  or anything outside the words arbitrarily, changes nothing but the `lo`/`hi` of the *query* matches (C11).
-/
import LucidModel.Search
import LucidProofs.Lemmas.Orders
import LucidProofs.Lemmas.TopK
import LucidProofs.Lemmas.TextMatchScan

namespace Lucid

/-! ### shifted words, shifted matches, `QEquiv` -/

def WordShape.shift (d : Nat) (w : WordShape) : WordShape := { w with lo := w.lo + d, hi := w.hi + d }

/-- the match moved right by `d` characters (`sub` bounds are relative to the word, so they stay) -/
def WMatch.shift (d : Nat) (m : WMatch) : WMatch := { m with lo := m.lo + d, hi := m.hi + d }

/-- `q'` is `q` shifted right by `d` positions: the words are those of `q` moved by `d` (same `offset`,
    `stem`, `pos`, `fin`), and the characters / classes of every stretch that starts at the beginning of a
    word and ends at the end of a word agree. For a text whose words are in order this says: everything
    between the start of the first word and the end of the last word agrees (`QEquiv.of_range`).
    `source`, and `chars`/`classes` outside that range, are unconstrained. -/
structure QEquiv (d : Nat) (q q' : Text) : Prop where
  words   : q'.words = q.words.map (WordShape.shift d)
  chars   : ∀ a ∈ q.words, ∀ b ∈ q.words, slice q'.chars (a.lo + d) (b.hi + d) = slice q.chars a.lo b.hi
  classes : ∀ a ∈ q.words, ∀ b ∈ q.words, slice q'.classes (a.lo + d) (b.hi + d) = slice q.classes a.lo b.hi

@[simp] theorem WordShape.shift_len (d : Nat) (w : WordShape) : (w.shift d).len = w.len :=
  Nat.add_sub_add_right w.hi d w.lo
@[simp] theorem WordShape.shift_offset (d : Nat) (w : WordShape) : (w.shift d).offset = w.offset := rfl
@[simp] theorem WordShape.shift_stem (d : Nat) (w : WordShape) : (w.shift d).stem = w.stem := rfl
@[simp] theorem WordShape.shift_pos (d : Nat) (w : WordShape) : (w.shift d).pos = w.pos := rfl
@[simp] theorem WordShape.shift_fin (d : Nat) (w : WordShape) : (w.shift d).fin = w.fin := rfl
@[simp] theorem WordShape.shift_lo (d : Nat) (w : WordShape) : (w.shift d).lo = w.lo + d := rfl
@[simp] theorem WordShape.shift_hi (d : Nat) (w : WordShape) : (w.shift d).hi = w.hi + d := rfl

@[simp] theorem WMatch.shift_wordLen (d : Nat) (m : WMatch) : (m.shift d).wordLen = m.wordLen :=
  Nat.add_sub_add_right m.hi d m.lo
@[simp] theorem WMatch.shift_matchLen (d : Nat) (m : WMatch) : (m.shift d).matchLen = m.matchLen := rfl
@[simp] theorem WMatch.shift_offset (d : Nat) (m : WMatch) : (m.shift d).offset = m.offset := rfl
@[simp] theorem WMatch.shift_typos (d : Nat) (m : WMatch) : (m.shift d).typos = m.typos := rfl
@[simp] theorem WMatch.shift_func (d : Nat) (m : WMatch) : (m.shift d).func = m.func := rfl
@[simp] theorem WMatch.shift_fin (d : Nat) (m : WMatch) : (m.shift d).fin = m.fin := rfl
@[simp] theorem WMatch.shift_subLo (d : Nat) (m : WMatch) : (m.shift d).subLo = m.subLo := rfl
@[simp] theorem WMatch.shift_subHi (d : Nat) (m : WMatch) : (m.shift d).subHi = m.subHi := rfl

/-! ### joined words and gaps -/

theorem WordShape.join_shift (d : Nat) (a b : WordShape) : (a.shift d).join (b.shift d) = (a.join b).shift d := by
  simp only [WordShape.join, WordShape.shift, Nat.add_sub_add_right]

theorem WordShape.dist_shift (d : Nat) (a b : WordShape) : (a.shift d).dist (b.shift d) = a.dist b := by
  simp only [WordShape.dist, WordShape.shift, ge_iff_le, Nat.add_le_add_iff_right, Nat.add_sub_add_right]

def WAgree (d : Nat) (q q' : Text) (w : WordShape) : Prop :=
  wchars q' (w.shift d) = wchars q w ∧ wclasses q' (w.shift d) = wclasses q w

theorem QEquiv.agree {d : Nat} {q q' : Text} (h : QEquiv d q q') {w : WordShape} (hw : w ∈ q.words) :
    WAgree d q q' w :=
  ⟨h.chars w hw w hw, h.classes w hw w hw⟩

theorem QEquiv.agree_join {d : Nat} {q q' : Text} (h : QEquiv d q q') {a b : WordShape}
    (ha : a ∈ q.words) (hb : b ∈ q.words) : WAgree d q q' (a.join b) :=
  ⟨h.chars a ha b hb, h.classes a ha b hb⟩

/-! ### word level: `lengthCheck`, `jaccardCheck`, `cword`, `wordMatch` -/

theorem lengthCheck_shift (K : Consts) (r q : WordShape) (d : Nat) :
    lengthCheck K r (q.shift d) = lengthCheck K r q := by
  simp [lengthCheck]

theorem jaccardSlice_shift (rt : Text) (r q : WordShape) (d : Nat) :
    jaccardSlice rt r (q.shift d) = jaccardSlice rt r q := by
  simp [jaccardSlice]

theorem jaccardCheck_shift (K : Consts) (rt : Text) (r : WordShape) {d : Nat} {qt qt' : Text} {q : WordShape}
    (h : WAgree d qt qt' q) : jaccardCheck K rt r qt' (q.shift d) = jaccardCheck K rt r qt q := by
  simp [jaccardCheck, jaccardSlice_shift, h.1]

theorem cword_shift (K : Consts) {d : Nat} {qt qt' : Text} {q : WordShape} (h : WAgree d qt qt' q) :
    cword K qt' (q.shift d) = cword K qt q := by
  simp [cword, h.1, h.2]

def pairShift (d : Nat) (p : WMatch × WMatch) : WMatch × WMatch := (p.1, p.2.shift d)

theorem newPair_shift (K : Consts) (r q : WordShape) (d rs qs t : Nat) :
    newPair K r (q.shift d) rs qs t = pairShift d (newPair K r q rs qs t) := by
  simp [newPair, pairShift, WMatch.shift]

theorem wmOuter_shift (K : Consts) (r q : WordShape) (d left : Nat) (cell : Nat → Nat → Nat) (range l : List Nat) :
    wmOuter ⟨K, r, q.shift d, left, cell⟩ range l none =
      (wmOuter ⟨K, r, q, left, cell⟩ range l none).map (pairShift d) :=
  wmOuter_map (pairShift d) (fun _ => rfl) K r q (q.shift d) left cell cell (q.shift_len d) rfl rfl
    (fun _ _ _ _ => rfl) (newPair_shift K r q d) range l

theorem wmLeftRaw_shift (r q : WordShape) (d : Nat) : wmLeftRaw r (q.shift d) = wmLeftRaw r q := rfl

theorem wordMatchM_shift (K : Consts) (m : Mat) (rt : Text) (r : WordShape) {d : Nat} {qt qt' : Text}
    {q : WordShape} (h : WAgree d qt qt' q) :
    wordMatchM K m rt r qt' (q.shift d) =
      ((wordMatchM K m rt r qt q).1.map (pairShift d), (wordMatchM K m rt r qt q).2) := by
  simp only [wordMatchM_eq, wmRange, WordShape.shift_len, lengthCheck_shift, jaccardCheck_shift K rt r h,
    cword_shift K h, wmLeftRaw_shift, wmOuter_shift]
  split <;> rfl

theorem wordMatch_shift (K : Consts) (rt : Text) (r : WordShape) {d : Nat} {qt qt' : Text}
    {q : WordShape} (h : WAgree d qt qt' q) :
    wordMatch K rt r qt' (q.shift d) = (wordMatch K rt r qt q).map (pairShift d) := by
  simp only [wordMatch, wordMatchM_shift K _ rt r h]

theorem WMatch.split_shift (K : Consts) (m : WMatch) (a b : WordShape) (d : Nat) :
    (m.shift d).split K (a.shift d) (b.shift d) =
      (m.split K a b).map (fun p => (p.1.shift d, p.2.shift d)) := by
  simp only [WMatch.split, WordShape.shift_lo, WMatch.shift_subHi, WordShape.shift_len, WMatch.shift_typos,
    WordShape.shift_offset, WordShape.shift_hi, WordShape.shift_pos, WMatch.shift_fin, Nat.add_right_comm _ d,
    Nat.add_le_add_iff_right, Nat.add_sub_add_right]
  split <;> rfl

/-! ### text level -/

def qmShift (d : Nat) (l : List (Option WMatch)) : List (Option WMatch) := l.map (Option.map (WMatch.shift d))

def TMState.shift (d : Nat) (s : TMState) : TMState :=
  { rm := s.rm, qm := qmShift d s.qm, cand := s.cand.map (pairShift d) }

theorem isSet_qmShift (d : Nat) (l : List (Option WMatch)) (i : Nat) : isSet (qmShift d l) i = isSet l i := by
  simp only [isSet, qmShift, List.getD_eq_getElem?_getD, List.getElem?_map]
  cases l[i]? with
  | none => rfl
  | some o => cases o <;> rfl

theorem setAt_qmShift (d : Nat) (l : List (Option WMatch)) (i : Nat) (m : WMatch) :
    setAt (qmShift d l) i (m.shift d) = qmShift d (setAt l i m) := by
  simp [setAt, qmShift, List.map_set]

theorem getElem?_qmShift_none (d : Nat) (l : List (Option WMatch)) (i : Nat) :
    ((qmShift d l)[i]? = some none) = (l[i]? = some none) := by
  simp only [qmShift, List.getElem?_map]
  rcases l[i]? with _ | _ | _ <;> simp

theorem tryJoinR_shift (K : Consts) (rt : Text) {d : Nat} {qt qt' : Text} (s : TMState) (r : WordShape)
    {q : WordShape} (h : WAgree d qt qt' q) :
    tryJoinR K rt qt' (s.shift d) r (q.shift d) = (tryJoinR K rt qt s r q).map (TMState.shift d) := by
  simp only [tryJoinR_eq, WordShape.shift_len, wordMatch_shift K rt _ h, TMState.shift, Option.map_bind,
    Option.bind_map, Option.map_map, apply_ite (Option.map _), Option.map_none, Function.comp_def, pairShift,
    WMatch.shift_offset, setAt_qmShift]

theorem tryJoinQ_shift (K : Consts) (rt : Text) {d : Nat} {qt qt' : Text} (h : QEquiv d qt qt') (s : TMState)
    (r : WordShape) {q : WordShape} (hq : q ∈ qt.words) :
    tryJoinQ K rt qt' (s.shift d) r (q.shift d) = (tryJoinQ K rt qt s r q).map (TMState.shift d) := by
  simp only [tryJoinQ_eq, h.words, List.getElem?_map, WordShape.shift_offset, WordShape.shift_len]
  rcases hn : qt.words[q.offset + 1]? with _ | qnext
  · rfl
  simp only [Option.map_some, Option.bind_some, WordShape.dist_shift, WordShape.join_shift,
    wordMatch_shift K rt r (h.agree_join hq (List.mem_of_getElem? hn)), TMState.shift, getElem?_qmShift_none,
    Option.map_bind, Option.bind_map, Option.map_map, apply_ite (Option.map _), Option.map_none,
    Function.comp_def, pairShift, WMatch.split_shift, WMatch.shift_offset, setAt_qmShift]

theorem shouldReplace_shift (d : Nat) (cand : Option (WMatch × WMatch)) (r2 : WMatch) :
    shouldReplace (cand.map (pairShift d)) r2 = shouldReplace cand r2 := by
  cases cand <;> rfl

theorem tmStep_shift (K : Consts) (rt : Text) {d : Nat} {qt qt' : Text} {q : WordShape}
    (h : QEquiv d qt qt') (hq : q ∈ qt.words) (s : TMState) (r : WordShape) :
    tmStep K rt qt' (q.shift d) (s.shift d) r =
      ((tmStep K rt qt q s r).1.shift d, (tmStep K rt qt q s r).2) := by
  simp only [tmStep, tryJoinR_shift K rt s r (h.agree hq), tryJoinQ_shift K rt h s r hq,
    wordMatch_shift K rt r (h.agree hq)]
  rcases tryJoinR K rt qt s r q with _ | s1
  · rcases tryJoinQ K rt qt s r q with _ | s2
    · rcases wordMatch K rt r qt q with _ | ⟨r2, q2⟩
      · rfl
      · simp only [Option.map_some, Option.map_none, pairShift, shouldReplace_shift,
          show (s.shift d).cand = s.cand.map (pairShift d) from rfl]
        split <;> rfl
    · rfl
  · rfl

theorem tmScan_shift (K : Consts) (rt : Text) {d : Nat} {qt qt' : Text} {q : WordShape}
    (h : QEquiv d qt qt') (hq : q ∈ qt.words) (rs : List WordShape) (s : TMState) :
    tmScan K rt qt' (q.shift d) rs (s.shift d) = (tmScan K rt qt q rs s).shift d := by
  induction rs generalizing s with
  | nil => rfl
  | cons r rest ih =>
    simp only [tmScan, tmStep_shift K rt h hq, ih, show (s.shift d).rm = s.rm from rfl]
    split
    · rfl
    · split <;> rfl

theorem tmCommit_shift (d : Nat) (s : TMState) : tmCommit (s.shift d) = (tmCommit s).shift d := by
  rcases s with ⟨rm, qm, _ | ⟨rmm, qmm⟩⟩
  · rfl
  · simp only [tmCommit, TMState.shift, Option.map_some, pairShift, WMatch.shift_offset, setAt_qmShift,
      Option.map_none]

theorem tmQuery_shift (K : Consts) (rt : Text) {d : Nat} {qt qt' : Text} {q : WordShape}
    (h : QEquiv d qt qt') (hq : q ∈ qt.words) (s : TMState) :
    tmQuery K rt qt' (s.shift d) (q.shift d) = (tmQuery K rt qt s q).shift d := by
  have e : isSet (s.shift d).qm (q.shift d).offset = isSet s.qm q.offset := isSet_qmShift d s.qm q.offset
  unfold tmQuery
  by_cases h1 : isSet s.qm q.offset = true
  · rw [if_pos h1, if_pos (e.trans h1)]
  · rw [if_neg h1, if_neg (by rw [e]; exact h1)]
    have e2 : ({ s.shift d with cand := none } : TMState) = ({ s with cand := none } : TMState).shift d := rfl
    rw [e2, tmScan_shift K rt h hq, tmCommit_shift]

theorem foldl_tmQuery_shift (K : Consts) (rt : Text) {d : Nat} {qt qt' : Text} (h : QEquiv d qt qt')
    (l : List WordShape) (hl : ∀ w ∈ l, w ∈ qt.words) (s : TMState) :
    (l.map (WordShape.shift d)).foldl (tmQuery K rt qt') (s.shift d) = (l.foldl (tmQuery K rt qt) s).shift d := by
  induction l generalizing s with
  | nil => rfl
  | cons w rest ih =>
    simp only [List.map_cons, List.foldl_cons]
    rw [tmQuery_shift K rt h (hl w (List.mem_cons_self ..))]
    exact ih (fun w' hw' => hl w' (List.mem_cons_of_mem _ hw')) _

theorem filterMap_qmShift (d : Nat) (l : List (Option WMatch)) :
    (qmShift d l).filterMap id = (l.filterMap id).map (WMatch.shift d) := by
  rw [qmShift, List.filterMap_map, List.map_filterMap]; rfl

theorem textMatch_shift (K : Consts) (rt : Text) {d : Nat} {q q' : Text} (h : QEquiv d q q') :
    textMatch K rt q' = ((textMatch K rt q).1, (textMatch K rt q).2.map (WMatch.shift d)) := by
  have e : tmInit rt q' = (tmInit rt q).shift d := by simp [tmInit, TMState.shift, qmShift, h.words]
  rw [textMatch_eq, textMatch_eq, e, h.words, foldl_tmQuery_shift K rt h q.words fun _ hw => hw]
  simp only [TMState.shift, filterMap_qmShift]

/-! ### index level -/

theorem collectGrams_congr {d : Nat} {q q' : Text} (h : QEquiv d q q') : collectGrams q' = collectGrams q := by
  unfold collectGrams
  rw [h.words, List.map_map]
  congr 2
  apply List.map_congr_left
  intro w hw
  exact congrArg trigrams (h.chars w hw w hw)

theorem positiveCounts_congr {d : Nat} {q q' : Text} (h : QEquiv d q q') (idx : Index) :
    positiveCounts idx q' = positiveCounts idx q := by
  simp only [positiveCounts, collectGrams_congr h]

theorem prepare_congr {d : Nat} {q q' : Text} (h : QEquiv d q q') (S : Sorter) (K : Consts) (idx : Index)
    (size : Nat) : idx.prepare S K q' size = idx.prepare S K q size := by
  simp only [Index.prepare, positiveCounts_congr h, h.words, List.length_map]

/-! ### scoring, filter, highlight -/

def Hit.shiftQ (d : Nat) (h : Hit) : Hit := { h with qmatches := h.qmatches.map (WMatch.shift d) }

theorem scoreHit_congr (K : Consts) (order : List ScoreType) {d : Nat} {q q' : Text} (h : QEquiv d q q')
    (r : Record) : scoreHit K order q' r = (scoreHit K order q r).shiftQ d := by
  simp only [scoreHit, textMatch_shift K r.title h, Hit.shiftQ]

theorem scoreHit_rmatches_congr (K : Consts) (order : List ScoreType) {d : Nat} {q q' : Text}
    (h : QEquiv d q q') (r : Record) :
    (scoreHit K order q' r).rmatches = (scoreHit K order q r).rmatches ∧
    (scoreHit K order q' r).scores = (scoreHit K order q r).scores := by
  rw [scoreHit_congr K order h]; exact ⟨rfl, rfl⟩

theorem hitMatches_congr {d : Nat} {q q' : Text} (h : QEquiv d q q') (x : Hit) :
    hitMatches q' (x.shiftQ d) = hitMatches q x := by
  simp only [hitMatches, h.words, List.length_map, Hit.shiftQ]
  rcases x.rmatches with _ | ⟨rm, _ | _⟩
  · rfl
  · rcases x.qmatches with _ | ⟨qm, _ | _⟩ <;> simp only [List.map_cons, List.map_nil, WMatch.shift_wordLen]
  · rfl

theorem highlight_shiftQ (d : Nat) (x : Hit) (dl dr : List Nat) : highlight (x.shiftQ d) dl dr = highlight x dl dr := rfl

theorem render_shiftQ (st : Store) (d : Nat) (x : Hit) : st.render (x.shiftQ d) = st.render x := rfl

theorem hitLe_shiftQ (d : Nat) (x y : Hit) : hitLe (x.shiftQ d) (y.shiftQ d) = hitLe x y := rfl

theorem hitsOf_congr (K : Consts) (order : List ScoreType) (st : Store) {d : Nat} {q q' : Text}
    (h : QEquiv d q q') (ixs : List Nat) :
    st.hitsOf K order q' ixs = (st.hitsOf K order q ixs).map (Hit.shiftQ d) := by
  have e1 : scoreHit K order q' = Hit.shiftQ d ∘ scoreHit K order q := funext (scoreHit_congr K order h)
  have e2 : hitMatches q' ∘ Hit.shiftQ d = hitMatches q := funext (hitMatches_congr h)
  rw [Store.hitsOf, Store.hitsOf, e1, ← List.map_map, List.filter_map, e2]

theorem candidatesM_congr {d : Nat} {q q' : Text} (h : QEquiv d q q') (S : Sorter) (K : Consts) (st : Store) :
    st.candidatesM S K q' = st.candidatesM S K q := by
  simp only [Store.candidatesM, prepare_congr h, h.words, List.length_map]

/-! ### bounded selection and the sorting oracle

  The hits for `q'` and for `q` differ in the `lo`/`hi` of their query matches, which neither the comparator
  nor the rendering reads. A sorting routine cannot read them either, *if* it treats the elements as opaque
  values that it only compares and moves: this is the naturality (parametricity) property below, the "free
  theorem" of the type of `Sorter.sort`. It is not provable for an arbitrary Lean function of that type
  (a function may, classically, test `α = Hit` and then break ties by looking inside the elements), so it is
  a named hypothesis about the oracle. -/

def SorterNatural (S : Sorter) : Prop :=
  ∀ {α β : Type} (f : α → β) (le : β → β → Bool) (l : List α),
    S.sort le (l.map f) = (S.sort (fun a b => le (f a) (f b)) l).map f

theorem limitLoop_map {α β : Type} (f : α → β) (sort : List α → List α) (sort' : List β → List β)
    (hs : ∀ l, sort' (l.map f) = (sort l).map f) (factor limit : Nat) (xs buf : List α) :
    limitLoop sort' factor limit (buf.map f) (xs.map f) = (limitLoop sort factor limit buf xs).map f := by
  induction xs generalizing buf with
  | nil => rfl
  | cons x rest ih =>
    simp only [List.map_cons, limitLoop]
    have e : buf.map f ++ [f x] = (buf ++ [x]).map f := by simp
    rw [e, List.length_map]
    by_cases h1 : (buf ++ [x]).length ≥ limit * factor
    · rw [if_pos h1, if_pos h1, hs, ← List.map_take]; exact ih _
    · rw [if_neg h1, if_neg h1]; exact ih _

theorem limitSort_map {α β : Type} (f : α → β) (sort : List α → List α) (sort' : List β → List β)
    (hs : ∀ l, sort' (l.map f) = (sort l).map f) (factor limit : Nat) (xs : List α) :
    limitSort sort' factor limit (xs.map f) = (limitSort sort factor limit xs).map f := by
  have := limitLoop_map f sort sort' hs factor limit xs []
  simp only [List.map_nil] at this
  simp only [limitSort, this, hs, List.map_take]

/-- `Store::search` on the shifted query: same results, same store afterwards -/
theorem searchM_congr {S : Sorter} (hS : SorterNatural S) (K : Consts) (order : List ScoreType) (st : Store)
    {d : Nat} {q q' : Text} (h : QEquiv d q q') :
    st.searchM S K order q' = st.searchM S K order q := by
  simp only [Store.searchM, candidatesM_congr h, hitsOf_congr K order st h]
  rw [limitSort_map (Hit.shiftQ d) (S.sort hitLe) (S.sort hitLe) (fun l => hS (Hit.shiftQ d) hitLe l)]
  simp only [List.map_map]
  congr 1

/-! ### without naturality -/

def Hit.unshiftQ (d : Nat) (h : Hit) : Hit :=
  { h with qmatches := h.qmatches.map (fun m => { m with lo := m.lo - d, hi := m.hi - d }) }

theorem Hit.unshiftQ_shiftQ (d : Nat) (h : Hit) : (h.shiftQ d).unshiftQ d = h := by
  have e : (fun m : WMatch => ({ m with lo := m.lo - d, hi := m.hi - d } : WMatch)) ∘ WMatch.shift d = _root_.id := by
    funext m; cases m; simp [WMatch.shift]
  simp only [Hit.unshiftQ, Hit.shiftQ, List.map_map, e, List.map_id]

/-- For every sorter that returns sorted permutations (no naturality assumed): the results for the shifted
    query are the rendering of a top-`limit` selection of the *same* hit list as for the original query. -/
theorem search_congr_topk {S : Sorter} (hS : SorterOK S) (K : Consts)
    (order : List ScoreType) (st : Store) {d : Nat} {q q' : Text} (h : QEquiv d q q') :
    ∃ top, TopK hitLe st.limit (st.hitsOf K order q (st.candidatesM S K q).1) top ∧
      st.search S K order q' = top.map st.render := by
  have hk := hS.topK hitLe_preorder K.sortFactor st.limit (st.hitsOf K order q' (st.candidatesM S K q').1)
  rw [candidatesM_congr h, hitsOf_congr K order st h] at hk
  have hk' := hk.map (Hit.unshiftQ d) (le' := hitLe) (fun _ _ _ _ => rfl)
  rw [List.map_map] at hk'
  have e : (Hit.unshiftQ d ∘ Hit.shiftQ d) = id := by funext x; exact Hit.unshiftQ_shiftQ d x
  rw [e, List.map_id] at hk'
  refine ⟨_, hk', ?_⟩
  simp only [Store.search, Store.searchM, candidatesM_congr h, hitsOf_congr K order st h, List.map_map]
  apply List.map_congr_left
  intro x _
  rfl

/-! ### ways to establish `QEquiv` -/

private theorem slice_drop_take {α : Type} (l : List α) (lo hi : Nat) : slice l lo hi = (l.drop lo).take (hi - lo) := rfl

/-- covered-range form: all words lie in `[A, B)` and every stretch of that range agrees -/
theorem QEquiv.of_range {d : Nat} {q q' : Text} (A B : Nat)
    (hw : q'.words = q.words.map (WordShape.shift d))
    (hin : ∀ w ∈ q.words, A ≤ w.lo ∧ w.hi ≤ B)
    (hc : ∀ lo hi, A ≤ lo → hi ≤ B → slice q'.chars (lo + d) (hi + d) = slice q.chars lo hi)
    (hk : ∀ lo hi, A ≤ lo → hi ≤ B → slice q'.classes (lo + d) (hi + d) = slice q.classes lo hi) :
    QEquiv d q q' :=
  ⟨hw, fun a ha b hb => hc _ _ (hin a ha).1 (hin b hb).2, fun a ha b hb => hk _ _ (hin a ha).1 (hin b hb).2⟩

/-- prefix form: `q'` carries `d` extra characters / classes in front of those of `q` -/
theorem QEquiv.of_prefix {q q' : Text} (pc : List Nat) (pk : List CharClass) (hlen : pk.length = pc.length)
    (hw : q'.words = q.words.map (WordShape.shift pc.length))
    (hc : q'.chars = pc ++ q.chars) (hk : q'.classes = pk ++ q.classes) : QEquiv pc.length q q' := by
  refine ⟨hw, fun a _ b _ => ?_, fun a _ b _ => ?_⟩
  · rw [hc]; exact slice_append_right pc q.chars a.lo b.hi
  · rw [hk, ← hlen]; exact slice_append_right pk q.classes a.lo b.hi

/-! ### non-vacuity of the sorter hypotheses: insertion sort is natural and returns sorted permutations -/

def insSorted {α : Type} (le : α → α → Bool) (x : α) : List α → List α
  | [] => [x]
  | y :: ys => if le x y then x :: y :: ys else y :: insSorted le x ys

def insSort {α : Type} (le : α → α → Bool) (l : List α) : List α := l.foldr (insSorted le) []

def insSorter : Sorter := ⟨fun le l => insSort le l⟩

theorem insSorted_map {α β : Type} (f : α → β) (le : β → β → Bool) (x : α) (l : List α) :
    insSorted le (f x) (l.map f) = (insSorted (fun a b => le (f a) (f b)) x l).map f := by
  induction l with
  | nil => rfl
  | cons y ys ih =>
    simp only [List.map_cons, insSorted]
    by_cases h : le (f x) (f y) = true
    · simp only [if_pos h, List.map_cons]
    · simp only [if_neg h, List.map_cons, ih]

theorem insSorter_natural : SorterNatural insSorter := by
  intro α β f le l
  show insSort le (l.map f) = (insSort (fun a b => le (f a) (f b)) l).map f
  induction l with
  | nil => rfl
  | cons x xs ih =>
    simp only [insSort, List.map_cons, List.foldr_cons] at ih ⊢
    rw [ih, insSorted_map]

theorem insSorter_ok : SorterOK insSorter := fun le P =>
  SortSpec.of_insert P (insSorted le) (fun _ => rfl) (fun _ _ _ => rfl)

end Lucid
