/-
  LucidProofs.Lemmas.Jaccard — the Jaccard pre-filter (`LucidModel/Jaccard.lean`, Rust `matching/jaccard/mod.rs`).

  * `natSet` (= `sort_unstable(); dedup()`): strictly ascending, same members, depends on membership only.
  * `copyFrom (vecResize buf |s|) s = s`: `resize` + `copy_from_slice` forgets the previous buffer contents.
  * `jacMerge` on strictly ascending lists computes (|A∩B|, |A∪B|).
  * `jacMergeIdx`: index-based version of the Rust `while` loop with *checked* reads; it never fails
    and equals `jacMerge` (Jaccard part of C19).
-/
import LucidModel.Jaccard
import LucidProofs.Lemmas.ListFacts

namespace Lucid

def Asc (l : List Nat) : Prop := l.Pairwise (· < ·)

theorem Asc.nodup {l : List Nat} (h : Asc l) : l.Nodup :=
  List.Pairwise.imp (fun hab => Nat.ne_of_lt hab) h

theorem Asc.tail {a : Nat} {l : List Nat} (h : Asc (a :: l)) : Asc l :=
  (List.pairwise_cons.mp h).2

theorem Asc.head_lt {a : Nat} {l : List Nat} (h : Asc (a :: l)) : ∀ x ∈ l, a < x :=
  (List.pairwise_cons.mp h).1

theorem Asc.filter {l : List Nat} (p : Nat → Bool) (h : Asc l) : Asc (l.filter p) :=
  List.Pairwise.sublist List.filter_sublist h

theorem Asc.head_not_mem {a : Nat} {l : List Nat} (h : Asc (a :: l)) : a ∉ l :=
  fun hm => Nat.lt_irrefl a (h.head_lt a hm)

theorem Asc.not_mem_of_lt {a b : Nat} {l : List Nat} (h : Asc (b :: l)) (hab : a < b) : a ∉ b :: l := by
  intro hm
  rcases List.mem_cons.mp hm with e | e
  · exact Nat.ne_of_lt hab e
  · exact Nat.lt_asymm hab (h.head_lt a e)

theorem Asc.ext {l l' : List Nat} (h : Asc l) (h' : Asc l') (hm : ∀ x, x ∈ l ↔ x ∈ l') : l = l' :=
  ((List.perm_ext_iff_of_nodup h.nodup h'.nodup).mpr hm).eq_of_pairwise
    (fun _ _ _ _ hab hba => absurd hba (Nat.lt_asymm hab)) h h'

theorem mem_natInsert {x y : Nat} {l : List Nat} : y ∈ natInsert x l ↔ y = x ∨ y ∈ l := by
  induction l with
  | nil => simp [natInsert]
  | cons h t ih =>
    unfold natInsert
    split
    · simp
    · split
      · subst_vars; simp
      · simp [ih]; grind

theorem natInsert_asc {x : Nat} {l : List Nat} (hl : Asc l) : Asc (natInsert x l) := by
  induction l with
  | nil => simp [natInsert, Asc]
  | cons h t ih =>
    unfold natInsert
    split
    · rename_i hxh
      refine List.pairwise_cons.mpr ⟨?_, hl⟩
      intro y hy
      rcases List.mem_cons.mp hy with e | e
      · omega
      · have := hl.head_lt y e; omega
    · split
      · exact hl
      · refine List.pairwise_cons.mpr ⟨?_, ih hl.tail⟩
        intro y hy
        rcases mem_natInsert.mp hy with e | e
        · omega
        · exact hl.head_lt y e

theorem natSet_asc (l : List Nat) : Asc (natSet l) := by
  induction l with
  | nil => simp [natSet, Asc]
  | cons a t ih => exact natInsert_asc ih

/-- `natSet_asc` with `Asc` unfolded -/
theorem natSet_pairwise_lt (l : List Nat) : List.Pairwise (· < ·) (natSet l) := natSet_asc l

theorem mem_natSet {x : Nat} {l : List Nat} : x ∈ natSet l ↔ x ∈ l := by
  induction l with
  | nil => simp [natSet]
  | cons a t ih =>
    show x ∈ natInsert a (natSet t) ↔ _
    rw [mem_natInsert, ih]; simp

theorem natSet_nodup (l : List Nat) : (natSet l).Nodup := (natSet_asc l).nodup

theorem natSet_congr {l l' : List Nat} (h : ∀ x, x ∈ l ↔ x ∈ l') : natSet l = natSet l' :=
  Asc.ext (natSet_asc l) (natSet_asc l') (fun x => by rw [mem_natSet, mem_natSet]; exact h x)

theorem natSet_perm {l l' : List Nat} (h : l.Perm l') : natSet l = natSet l' :=
  natSet_congr (fun _ => h.mem_iff)

theorem natSet_append_self (l : List Nat) : natSet (l ++ l) = natSet l :=
  natSet_congr (fun x => by simp)

theorem natSet_of_asc {l : List Nat} (h : Asc l) : natSet l = l :=
  Asc.ext (natSet_asc l) h (fun _ => mem_natSet)

theorem natSet_idem (l : List Nat) : natSet (natSet l) = natSet l := natSet_of_asc (natSet_asc l)

theorem eq_nil_congr {l l' : List Nat} (h : ∀ x, x ∈ l ↔ x ∈ l') : l = [] ↔ l' = [] := by
  simp only [List.eq_nil_iff_forall_not_mem, h]

theorem natSet_eq_nil {l : List Nat} : natSet l = [] ↔ l = [] := eq_nil_congr fun _ => mem_natSet

theorem length_vecResize (buf : List Nat) (n : Nat) : (vecResize buf n).length = n := by
  simp [vecResize]; omega

/-- after `resize(len)` and `copy_from_slice`, the buffer holds exactly the slice: earlier contents are gone -/
theorem copyFrom_vecResize (buf s : List Nat) : copyFrom (vecResize buf s.length) s = s := by
  unfold copyFrom
  exact List.map_snd_zip (by rw [length_vecResize]; exact Nat.le_refl _)

/-- |A∩B| -/
def interCard (a b : List Nat) : Nat := ((natSet a).filter (· ∈ b)).length

/-- |A∪B| -/
def unionCard (a b : List Nat) : Nat := (natSet (a ++ b)).length

/-- |A| -/
def distinctCard (a : List Nat) : Nat := (natSet a).length

theorem interCard_comm (a b : List Nat) : interCard a b = interCard b a := by
  unfold interCard
  congr 1
  apply Asc.ext ((natSet_asc a).filter _) ((natSet_asc b).filter _)
  intro x
  simp [mem_natSet, and_comm]

theorem unionCard_comm (a b : List Nat) : unionCard a b = unionCard b a :=
  congrArg List.length (natSet_perm List.perm_append_comm)

theorem unionCard_eq (a b : List Nat) :
    unionCard a b = (natSet a).length + ((natSet b).filter (· ∉ a)).length := by
  unfold unionCard
  rw [← List.length_append]
  refine ((List.perm_ext_iff_of_nodup (natSet_nodup _) ?_).mpr ?_).length_eq
  · refine List.nodup_append.mpr ⟨natSet_nodup a, (natSet_nodup b).sublist List.filter_sublist, ?_⟩
    intro x hx y hy
    have hx' := mem_natSet.mp hx
    have hy' := (List.mem_filter.mp hy).2
    intro e; subst e; simp [hx'] at hy'
  · intro x
    simp [mem_natSet]
    by_cases hx : x ∈ a <;> simp [hx]

theorem interCard_add_unionCard (a b : List Nat) :
    interCard a b + unionCard a b = distinctCard a + distinctCard b := by
  rw [interCard_comm, unionCard_eq]
  unfold interCard distinctCard
  have := length_filter_add_not (fun x => decide (x ∈ a)) (natSet b)
  simp only [decide_not] at *
  omega

theorem jacMerge_comm (l1 l2 : List Nat) : jacMerge l1 l2 = jacMerge l2 l1 := by
  fun_induction jacMerge l1 l2 with
  | case1 l2 => cases l2 <;> simp [jacMerge]
  | case2 a as => simp [jacMerge]
  | case3 a as b bs hab r ih =>
    have : ¬ b < a := by omega
    rw [jacMerge.eq_3]; simp only [this, hab, if_true, if_false, r, ih]
  | case4 a as b bs hab hba r ih =>
    rw [jacMerge.eq_3]; simp only [hba, if_true, r, ih]
  | case5 a as b bs hab hba r ih =>
    rw [jacMerge.eq_3]; simp only [hba, hab, if_false, r, ih]

/-- every element is counted once in the union and the matched pairs once more in the intersection -/
theorem jacMerge_add (l1 l2 : List Nat) : (jacMerge l1 l2).1 + (jacMerge l1 l2).2 = l1.length + l2.length := by
  fun_induction jacMerge l1 l2 with
  | case1 l2 => simp
  | case2 a as => simp
  | case3 a as b bs _ r ih => simp only [r, List.length_cons] at ih ⊢; omega
  | case4 a as b bs _ _ r ih => simp only [r, List.length_cons] at ih ⊢; omega
  | case5 a as b bs _ _ r ih => simp only [r, List.length_cons] at ih ⊢; omega

theorem filter_mem_cons_of_not_mem {l : List Nat} {b : Nat} (bs : List Nat) (h : b ∉ l) :
    l.filter (· ∈ b :: bs) = l.filter (· ∈ bs) :=
  List.filter_congr fun x hx => by have : x ≠ b := fun e => h (e ▸ hx); simp [this]

theorem jacMerge_inter {l1 l2 : List Nat} (h1 : Asc l1) (h2 : Asc l2) :
    (jacMerge l1 l2).1 = (l1.filter (· ∈ l2)).length := by
  fun_induction jacMerge l1 l2 with
  | case1 l2 => rfl
  | case2 a as => rw [List.filter_eq_nil_iff.mpr (by simp)]; rfl
  | case3 a as b bs hab r ih =>
    rw [List.filter_cons_of_neg (by simpa using h2.not_mem_of_lt hab)]; exact ih h1.tail h2
  | case4 a as b bs hab hba r ih =>
    rw [filter_mem_cons_of_not_mem bs (h1.not_mem_of_lt hba)]; exact ih h1 h2.tail
  | case5 a as b bs hab hba r ih =>
    obtain rfl : a = b := by omega
    rw [List.filter_cons_of_pos (by simp), filter_mem_cons_of_not_mem bs h1.head_not_mem, List.length_cons,
      ← ih h1.tail h2.tail]

theorem jacMerge_spec {l1 l2 : List Nat} (h1 : Asc l1) (h2 : Asc l2) :
    jacMerge l1 l2 = ((l1.filter (· ∈ l2)).length, l1.length + (l2.filter (· ∉ l1)).length) := by
  have hi := jacMerge_inter h1 h2
  have hi' := jacMerge_inter h2 h1
  rw [jacMerge_comm] at hi'
  have ha := jacMerge_add l1 l2
  have hf := length_filter_add_not (fun x => decide (x ∈ l1)) l2
  simp only [← decide_not] at hf
  ext <;> simp only [] <;> omega

theorem jacMerge_natSet (a b : List Nat) :
    jacMerge (natSet a) (natSet b) = (interCard a b, unionCard a b) := by
  rw [jacMerge_spec (natSet_asc a) (natSet_asc b), unionCard_eq]
  unfold interCard
  congr 2
  · apply List.filter_congr; intro x _; simp [mem_natSet]
  · congr 1; apply List.filter_congr; intro x _; simp [mem_natSet]

theorem jacMerge_union_ge (l1 l2 : List Nat) :
    l1.length ≤ (jacMerge l1 l2).2 ∧ l2.length ≤ (jacMerge l1 l2).2 := by
  fun_induction jacMerge l1 l2 <;> grind

theorem jacMerge_inter_le_union (l1 l2 : List Nat) : (jacMerge l1 l2).1 ≤ (jacMerge l1 l2).2 := by
  have := jacMerge_add l1 l2; have := jacMerge_union_ge l1 l2; omega

/-- The value of a call in one equation: the buffers `st` do not occur on the right (`resize` + `copy_from_slice`
    overwrite them, `copyFrom_vecResize`). -/
theorem jaccardM_fst (st : JacState) (a b : List Nat) :
    (jaccardM st a b).1 =
      if a = [] ∨ b = [] then (if a = [] ∧ b = [] then (1, 1) else (0, 1)) else jacMerge (natSet a) (natSet b) := by
  cases a with
  | nil => cases b <;> rfl
  | cons x xs =>
    cases b with
    | nil => rfl
    | cons y ys => rw [if_neg (by simp)]; simp only [jaccardM, copyFrom_vecResize]

theorem jaccardM_fst_of_ne_nil (st : JacState) {a b : List Nat} (ha : a ≠ []) (hb : b ≠ []) :
    (jaccardM st a b).1 = jacMerge (natSet a) (natSet b) := by
  rw [jaccardM_fst, if_neg (not_or.2 ⟨ha, hb⟩)]

theorem jaccard_of_ne_nil {a b : List Nat} (ha : a ≠ []) (hb : b ≠ []) :
    jaccard a b = (interCard a b, unionCard a b) := by
  rw [jaccard, jaccardM_fst_of_ne_nil _ ha hb, jacMerge_natSet]

theorem jaccard_nil_left {b : List Nat} (hb : b ≠ []) : jaccard [] b = (0, 1) := by
  rw [jaccard, jaccardM_fst, if_pos (Or.inl rfl), if_neg fun h => hb h.2]

theorem jaccard_nil_right {a : List Nat} (ha : a ≠ []) : jaccard a [] = (0, 1) := by
  rw [jaccard, jaccardM_fst, if_pos (Or.inr rfl), if_neg fun h => ha h.1]

/-- each list is at most as long as the union, and both counts add up to the two lengths, so when the counts agree
    every element of either list is a common one -/
theorem jacMerge_fst_eq_snd_iff {l1 l2 : List Nat} (h1 : Asc l1) (h2 : Asc l2) :
    (jacMerge l1 l2).1 = (jacMerge l1 l2).2 ↔ ∀ x, x ∈ l1 ↔ x ∈ l2 := by
  constructor
  · intro h
    have ha := jacMerge_add l1 l2
    have hg := jacMerge_union_ge l1 l2
    have e1 : (l1.filter (· ∈ l2)).length = l1.length := by rw [← jacMerge_inter h1 h2]; omega
    have e2 : (l2.filter (· ∈ l1)).length = l2.length := by rw [← jacMerge_inter h2 h1, jacMerge_comm]; omega
    exact fun x => ⟨fun hx => by simpa using List.length_filter_eq_length_iff.1 e1 x hx,
      fun hx => by simpa using List.length_filter_eq_length_iff.1 e2 x hx⟩
  · intro h
    obtain rfl := Asc.ext h1 h2 h
    have ha := jacMerge_add l1 l1
    have : (jacMerge l1 l1).1 = l1.length := by rw [jacMerge_inter h1 h1, List.filter_eq_self.2 (by simp)]
    omega

/-- `simple_similarity` as written in Rust: a `while i1 < len1 && i2 < len2` loop over indices with the
    accumulators `intersection`, `union`.  The two `get_unchecked` reads are replaced by *checked* reads
    `l[i]?`; an out-of-range read makes the whole result `none`.  `fuel` bounds the number of loop
    iterations (running out of fuel with the loop condition still true also gives `none`). -/
def jacMergeIdx (l1 l2 : List Nat) (i1 i2 inter union : Nat) : Nat → Option (Nat × Nat)
  | 0 =>
    if i1 < l1.length ∧ i2 < l2.length then none
    else some (inter, union + (l1.length - i1) + (l2.length - i2))
  | fuel + 1 =>
    if i1 < l1.length ∧ i2 < l2.length then
      match l1[i1]?, l2[i2]? with
      | some item1, some item2 =>
        match compare item1 item2 with
        | .lt => jacMergeIdx l1 l2 (i1 + 1) i2 inter (union + 1) fuel
        | .gt => jacMergeIdx l1 l2 i1 (i2 + 1) inter (union + 1) fuel
        | .eq => jacMergeIdx l1 l2 (i1 + 1) (i2 + 1) (inter + 1) (union + 1) fuel
      | _, _ => none
    else some (inter, union + (l1.length - i1) + (l2.length - i2))

theorem jacMergeIdx_exit {l1 l2 : List Nat} {i1 i2 : Nat} (inter union fuel : Nat)
    (h : ¬ (i1 < l1.length ∧ i2 < l2.length)) :
    jacMergeIdx l1 l2 i1 i2 inter union fuel = some (inter, union + (l1.length - i1) + (l2.length - i2)) := by
  cases fuel <;> rw [jacMergeIdx, if_neg h]

/-- one turn of the loop, in the shape of the equation of `jacMerge` -/
theorem jacMergeIdx_step {l1 l2 : List Nat} {i1 i2 a b : Nat} (inter union fuel : Nat)
    (h1 : l1[i1]? = some a) (h2 : l2[i2]? = some b) :
    jacMergeIdx l1 l2 i1 i2 inter union (fuel + 1) =
      if a < b then jacMergeIdx l1 l2 (i1 + 1) i2 inter (union + 1) fuel
      else if b < a then jacMergeIdx l1 l2 i1 (i2 + 1) inter (union + 1) fuel
      else jacMergeIdx l1 l2 (i1 + 1) (i2 + 1) (inter + 1) (union + 1) fuel := by
  rw [jacMergeIdx, if_pos ⟨(List.getElem?_eq_some_iff.mp h1).1, (List.getElem?_eq_some_iff.mp h2).1⟩, h1, h2]
  simp only []
  rcases Nat.lt_trichotomy a b with h | rfl | h
  · rw [Nat.compare_eq_lt.mpr h, if_pos h]
  · rw [Nat.compare_eq_eq.mpr rfl, if_neg (Nat.lt_irrefl a), if_neg (Nat.lt_irrefl a)]
  · rw [Nat.compare_eq_gt.mpr h, if_neg (Nat.lt_asymm h), if_pos h]

/-- the loop invariant, stated of what is left to read so that the induction can follow `jacMerge` -/
theorem jacMergeIdx_drop (l1 l2 s1 s2 : List Nat) : ∀ (fuel i1 i2 inter union : Nat),
    l1.drop i1 = s1 → l2.drop i2 = s2 → s1.length + s2.length ≤ fuel →
    jacMergeIdx l1 l2 i1 i2 inter union fuel = some (inter + (jacMerge s1 s2).1, union + (jacMerge s1 s2).2) := by
  fun_induction jacMerge s1 s2 with
  | case1 s2 =>
    intro fuel i1 i2 inter union h1 h2 _
    rw [jacMergeIdx_exit _ _ _ fun h => Nat.not_le_of_lt h.1 (List.drop_eq_nil_iff.mp h1),
      ← List.length_drop, ← List.length_drop, h1, h2]
    rfl
  | case2 a as =>
    intro fuel i1 i2 inter union h1 h2 _
    rw [jacMergeIdx_exit _ _ _ fun h => Nat.not_le_of_lt h.2 (List.drop_eq_nil_iff.mp h2),
      ← List.length_drop, ← List.length_drop, h1, h2]
    rfl
  | case3 a as b bs hab r ih =>
    intro fuel i1 i2 inter union h1 h2 hf
    simp only [List.length_cons] at hf
    obtain ⟨fuel, rfl⟩ : ∃ f, fuel = f + 1 := ⟨fuel - 1, by omega⟩
    rw [jacMergeIdx_step _ _ _ (drop_eq_cons h1).1 (drop_eq_cons h2).1, if_pos hab,
      ih _ _ _ _ _ (drop_eq_cons h1).2 h2 (by simp only [List.length_cons]; omega), Nat.add_assoc, Nat.add_comm 1]
  | case4 a as b bs hab hba r ih =>
    intro fuel i1 i2 inter union h1 h2 hf
    simp only [List.length_cons] at hf
    obtain ⟨fuel, rfl⟩ : ∃ f, fuel = f + 1 := ⟨fuel - 1, by omega⟩
    rw [jacMergeIdx_step _ _ _ (drop_eq_cons h1).1 (drop_eq_cons h2).1, if_neg hab, if_pos hba,
      ih _ _ _ _ _ h1 (drop_eq_cons h2).2 (by simp only [List.length_cons]; omega), Nat.add_assoc, Nat.add_comm 1]
  | case5 a as b bs hab hba r ih =>
    intro fuel i1 i2 inter union h1 h2 hf
    simp only [List.length_cons] at hf
    obtain ⟨fuel, rfl⟩ : ∃ f, fuel = f + 1 := ⟨fuel - 1, by omega⟩
    rw [jacMergeIdx_step _ _ _ (drop_eq_cons h1).1 (drop_eq_cons h2).1, if_neg hab, if_neg hba,
      ih _ _ _ _ _ (drop_eq_cons h1).2 (drop_eq_cons h2).2 (by omega), Nat.add_assoc, Nat.add_comm 1, Nat.add_assoc,
      Nat.add_comm 1]

/-- started like the Rust loop (`i1 = i2 = intersection = union = 0`) with fuel `len1 + len2` or more, the
    checked index loop never fails and returns exactly `jacMerge` — for arbitrary lists -/
theorem jacMergeIdx_eq_jacMerge (l1 l2 : List Nat) (fuel : Nat) (hf : l1.length + l2.length ≤ fuel) :
    jacMergeIdx l1 l2 0 0 0 0 fuel = some (jacMerge l1 l2) := by
  rw [jacMergeIdx_drop l1 l2 l1 l2 fuel 0 0 0 0 rfl rfl hf, Nat.zero_add, Nat.zero_add]

theorem jacMergeIdx_ne_none (l1 l2 : List Nat) (fuel : Nat) (hf : l1.length + l2.length ≤ fuel) :
    jacMergeIdx l1 l2 0 0 0 0 fuel ≠ none := by
  rw [jacMergeIdx_eq_jacMerge l1 l2 fuel hf]
  exact Option.some_ne_none _

end Lucid
