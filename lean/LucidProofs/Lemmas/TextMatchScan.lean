/-
  LucidProofs.Lemmas.TextMatchScan — the greedy scan of `text_match` (`matching/text.rs`, model `Lucid.textMatch`),
  in both directions.

  What every run leaves: the scan with its early exit is walked once (`tmStep_spec`, `tmScan_spec`), which gives
  `tmQuery_spec`: the loop body for a query word `q` either leaves the two vectors alone or stores, into slots that
  were free, what one of the three closures (plain `word_match`, joined record words, joined query words) emitted
  for `q` (`Fired`, a word-level notion with no scan state in it). So a committed match is never removed or changed;
  whatever holds of everything a closure can emit holds of everything `text_match` returns (`textMatch_of_fired`);
  and a query word with a free slot for which a closure succeeds on a free record word ends up matched
  (`QueryOut.stores`, `Stores.survive`, `fold_at`).

  What a run on a given word list computes (last section): the scan for `q` passes over the record words whose slot
  is taken or on which no closure succeeds (`Passes`), and the first other word decides the loop body.

  Only one structural fact about the two texts is used: `OffsetsOK` (`words[i].offset = i`, a field of `TextOK`, which
  only the last lemma takes whole);
  what is needed of `word_match` results comes from `wordMatch_inv`, and of `WordMatch::split` from `split_eq_some`.
-/
import LucidProofs.Lemmas.MatchBase
import LucidProofs.Lemmas.WordMatchLoop

namespace Lucid

theorem wordMatch_inv (K : Consts) (rt : Text) (r : WordShape) (qt : Text) (q : WordShape)
    (P : WMatch × WMatch → Prop) (hnew : ∀ rs qs d, P (newPair K r q rs qs d))
    (p : WMatch × WMatch) (h : wordMatch K rt r qt q = some p) : P p := by
  rw [wordMatch, wordMatchM_eq] at h
  split at h
  · obtain ⟨rs, _, qs, _, _, rfl, _⟩ := wmOuter_some h
    exact hnew rs qs _
  · cases h

theorem wordMatch_r_offset {K rt r qt q p} (h : wordMatch K rt r qt q = some p) : p.1.offset = r.offset :=
  wordMatch_inv K rt r qt q (fun p => p.1.offset = r.offset) (fun _ _ _ => rfl) p h

theorem wordMatch_q_offset {K rt r qt q p} (h : wordMatch K rt r qt q = some p) : p.2.offset = q.offset :=
  wordMatch_inv K rt r qt q (fun p => p.2.offset = q.offset) (fun _ _ _ => rfl) p h

theorem wordMatch_fin {K rt r qt q p} (h : wordMatch K rt r qt q = some p) (hq : q.fin = true) :
    p.1.fin = true ∧ p.2.fin = true :=
  wordMatch_inv K rt r qt q (fun p => p.1.fin = true ∧ p.2.fin = true)
    (fun _ _ _ => by simp [newPair, hq]) p h

theorem wordMatch_fin_eq {K rt r qt q p} (h : wordMatch K rt r qt q = some p) :
    p.1.fin = p.2.fin ∧ p.1.typos = p.2.typos :=
  wordMatch_inv K rt r qt q (fun p => p.1.fin = p.2.fin ∧ p.1.typos = p.2.typos) (fun _ _ _ => ⟨rfl, rfl⟩) p h

theorem split_eq_some {K : Consts} {m : WMatch} {w1 w2 : WordShape} {p : WMatch × WMatch} :
    m.split K w1 w2 = some p ↔ w2.lo < w1.lo + m.subHi ∧
      p = ({ offset := w1.offset, lo := w1.lo, hi := w1.hi, subLo := 0, subHi := w1.len,
             typos := (splitTypos m.typos w1.len w2.len).1, func := isFunc K w1.pos, fin := true },
           { offset := w2.offset, lo := w2.lo, hi := w2.hi, subLo := 0, subHi := m.subHi - (w2.lo - w1.lo),
             typos := (splitTypos m.typos w1.len w2.len).2, func := isFunc K w2.pos, fin := m.fin }) := by
  unfold WMatch.split
  by_cases h : w1.lo + m.subHi ≤ w2.lo
  · rw [if_pos h]; exact ⟨nofun, fun h' => absurd h (Nat.not_le.mpr h'.1)⟩
  · rw [if_neg h]; exact ⟨fun e => ⟨Nat.not_le.mp h, (Option.some.inj e).symm⟩, fun e => e.2 ▸ rfl⟩

/-- `l'` extends `l`: no committed match is removed or changed -/
def Ext (l l' : List (Option WMatch)) : Prop :=
  l'.length = l.length ∧ ∀ (i : Nat) (m : WMatch), l[i]? = some (some m) → l'[i]? = some (some m)

theorem Ext.refl (l : List (Option WMatch)) : Ext l l := ⟨rfl, fun _ _ h => h⟩

theorem Ext.trans {a b c : List (Option WMatch)} (h1 : Ext a b) (h2 : Ext b c) : Ext a c :=
  ⟨h2.1.trans h1.1, fun i m h => h2.2 i m (h1.2 i m h)⟩

theorem Ext.isSet {l l' : List (Option WMatch)} (h : Ext l l') {i : Nat} (hi : Lucid.isSet l i = true) :
    Lucid.isSet l' i = true := by
  obtain ⟨m, hm⟩ := isSet_iff.mp hi
  exact isSet_iff.mpr ⟨m, h.2 i m hm⟩

theorem Ext.setAt {l : List (Option WMatch)} {i : Nat} (m : WMatch) (h : Lucid.isSet l i = false) :
    Ext l (Lucid.setAt l i m) := by
  refine ⟨setAt_length _ _ _, fun j m' hj => ?_⟩
  by_cases e : i = j
  · subst e; exact absurd hj (isSet_false_iff.mp h m')
  · rw [getElem?_setAt_ne m e]; exact hj

def cntSet (l : List (Option WMatch)) : Nat := (l.filterMap id).length

theorem mem_filterMap_id {l : List (Option WMatch)} {m : WMatch} : m ∈ l.filterMap id ↔ ∃ i : Nat, l[i]? = some (some m) := by
  rw [List.mem_filterMap, ← List.mem_iff_getElem?]
  exact ⟨fun ⟨_, ha, e⟩ => e ▸ ha, fun h => ⟨_, h, rfl⟩⟩

theorem two_le_length_filterMap {l : List (Option WMatch)} {a b : WMatch} (h : a.offset ≠ b.offset)
    (ha : ∃ i : Nat, l[i]? = some (some a)) (hb : ∃ i : Nat, l[i]? = some (some b)) : 2 ≤ (l.filterMap id).length := by
  rw [← mem_filterMap_id] at ha hb
  match hl : l.filterMap id, ha, hb with
  | [], ha, _ => cases ha
  | [x], ha, hb => simp at ha hb; exact absurd (ha ▸ hb ▸ rfl) h
  | _ :: _ :: _, _, _ => simp

/-- invariant of a scratch vector (`rmatches`, `qmatches`): slot `i` holds only a match of offset `i`, one with `P` -/
def VecOK (P : WMatch → Prop) (n : Nat) (l : List (Option WMatch)) : Prop :=
  l.length = n ∧ ∀ i m, l[i]? = some (some m) → m.offset = i ∧ P m

theorem VecOK.replicate (P : WMatch → Prop) (n : Nat) : VecOK P n (List.replicate n none) :=
  ⟨List.length_replicate, fun i m h => absurd (isSet_iff.mpr ⟨m, h⟩) (by simp [isSet_replicate])⟩

theorem VecOK.setAt {P : WMatch → Prop} {n : Nat} {l : List (Option WMatch)} (h : VecOK P n l)
    {m : WMatch} (hm : P m) : VecOK P n (setAt l m.offset m) := by
  refine ⟨by simp [h.1], fun i m' hi => ?_⟩
  rw [getElem?_setAt] at hi
  split at hi
  · rename_i e
    split at hi
    · cases hi; exact ⟨e, hm⟩
    · cases hi
  · exact h.2 i m' hi

theorem VecOK.filterMap {P : WMatch → Prop} {n : Nat} {l : List (Option WMatch)} (h : VecOK P n l) :
    (l.filterMap id).Pairwise (fun a b => a.offset < b.offset) ∧
    ∀ m ∈ l.filterMap id, m.offset < n ∧ P m := by
  refine ⟨List.pairwise_filterMap.mpr (List.pairwise_iff_getElem.mpr fun i j hi hj hij a ha b hb => ?_),
    fun m hm => ?_⟩
  · rw [(h.2 i a (by rw [List.getElem?_eq_getElem hi]; exact congrArg some ha)).1,
      (h.2 j b (by rw [List.getElem?_eq_getElem hj]; exact congrArg some hb)).1]
    exact hij
  · obtain ⟨i, hi⟩ := mem_filterMap_id.mp hm
    exact ⟨(h.2 i m hi).1 ▸ h.1 ▸ (List.getElem?_eq_some_iff.mp hi).1, (h.2 i m hi).2⟩

/-- `rmatches[m.offset] = Some(m)` for each emitted match -/
def store (l : List (Option WMatch)) (ms : List WMatch) : List (Option WMatch) :=
  ms.foldl (fun l m => setAt l m.offset m) l

theorem VecOK.store {P : WMatch → Prop} {n : Nat} {l : List (Option WMatch)} {ms : List WMatch} (h : VecOK P n l)
    (hm : ∀ m ∈ ms, P m) : VecOK P n (store l ms) := by
  induction ms generalizing l with
  | nil => exact h
  | cons m ms ih => exact ih (h.setAt (hm m (by simp))) (fun x hx => hm x (by simp [hx]))

/-- the matches `ms` go to pairwise different slots of `l`, all in range and free -/
def Fresh (l : List (Option WMatch)) (ms : List WMatch) : Prop :=
  ms.Pairwise (fun a b => a.offset ≠ b.offset) ∧ ∀ m ∈ ms, m.offset < l.length ∧ isSet l m.offset = false

theorem Fresh.tail {l : List (Option WMatch)} {m : WMatch} {ms : List WMatch} (h : Fresh l (m :: ms)) :
    Fresh (setAt l m.offset m) ms := by
  obtain ⟨hp, hf⟩ := h
  rw [List.pairwise_cons] at hp
  refine ⟨hp.2, fun x hx => ⟨by simpa using (hf x (by simp [hx])).1, ?_⟩⟩
  rw [isSet_false_iff] at *
  intro y
  rw [getElem?_setAt_ne m (hp.1 x hx)]
  exact isSet_false_iff.mp (hf x (by simp [hx])).2 y

theorem Ext.store {l : List (Option WMatch)} {ms : List WMatch} (h : Fresh l ms) : Ext l (Lucid.store l ms) := by
  induction ms generalizing l with
  | nil => exact Ext.refl l
  | cons m ms ih => exact (Ext.setAt m (h.2 m (by simp)).2).trans (ih h.tail)

theorem getElem?_store {l : List (Option WMatch)} {ms : List WMatch} (h : Fresh l ms) {m : WMatch} (hm : m ∈ ms) :
    (store l ms)[m.offset]? = some (some m) := by
  induction ms generalizing l with
  | nil => cases hm
  | cons x ms ih =>
    rcases List.mem_cons.mp hm with rfl | hm
    · exact (Ext.store h.tail).2 _ _ (getElem?_setAt_self m (h.2 m (by simp)).1)
    · exact ih h.tail hm

theorem fresh_one {l : List (Option WMatch)} {m : WMatch} {i : Nat} (e : m.offset = i) (hl : i < l.length)
    (hf : isSet l i = false) : Fresh l [m] :=
  ⟨by simp, by simpa [e] using ⟨hl, hf⟩⟩

theorem fresh_two {l : List (Option WMatch)} {a b : WMatch} {i : Nat} (ea : a.offset = i) (eb : b.offset = i + 1)
    (hf : isSet l i = false) (hn : l[i + 1]? = some none) : Fresh l [a, b] := by
  have hl := (List.getElem?_eq_some_iff.mp hn).1
  refine ⟨by simp [ea, eb], ?_⟩
  simp only [List.mem_cons, List.not_mem_nil, or_false, forall_eq_or_imp, forall_eq, ea, eb]
  exact ⟨⟨by omega, hf⟩, hl, isSet_false_of_get hn⟩

/-! ### the three closures -/

/-- `tryJoinR` in the `Option` monad: every `match` of the definition sends `none` to `none` -/
theorem tryJoinR_eq (K : Consts) (rt qt : Text) (s : TMState) (r q : WordShape) :
    tryJoinR K rt qt s r q =
      rt.words[r.offset + 1]?.bind fun rnext =>
        if q.len < r.len + r.dist rnext then none else
        if s.rm[r.offset + 1]? = some none then
          (wordMatch K rt (r.join rnext) qt q).bind fun p =>
            (p.1.split K r rnext).map fun rr =>
              { rm := setAt (setAt s.rm rr.1.offset rr.1) rr.2.offset rr.2, qm := setAt s.qm p.2.offset p.2,
                cand := none }
        else none := by
  unfold tryJoinR
  rcases rt.words[r.offset + 1]? with _ | rnext
  · rfl
  rcases s.rm[r.offset + 1]? with _ | _ | _ <;> simp
  rcases wordMatch K rt (r.join rnext) qt q with _ | ⟨rmatch, qmatch⟩
  · simp
  rcases h2 : rmatch.split K r rnext with _ | ⟨r1, r2⟩ <;> simp [h2]

theorem tryJoinQ_eq (K : Consts) (rt qt : Text) (s : TMState) (r q : WordShape) :
    tryJoinQ K rt qt s r q =
      qt.words[q.offset + 1]?.bind fun qnext =>
        if r.len < q.len + q.dist qnext then none else
        if s.qm[q.offset + 1]? = some none then
          (wordMatch K rt r qt (q.join qnext)).bind fun p =>
            (p.2.split K q qnext).map fun qq =>
              { rm := setAt s.rm p.1.offset p.1, qm := setAt (setAt s.qm qq.1.offset qq.1) qq.2.offset qq.2,
                cand := none }
        else none := by
  unfold tryJoinQ
  rcases qt.words[q.offset + 1]? with _ | qnext
  · rfl
  rcases s.qm[q.offset + 1]? with _ | _ | _ <;> simp
  rcases wordMatch K rt r qt (q.join qnext) with _ | ⟨rmatch, qmatch⟩
  · simp
  rcases h2 : qmatch.split K q qnext with _ | ⟨q1, q2⟩ <;> simp [h2]

theorem tryJoinR_eq_some {K : Consts} {rt qt : Text} {s s' : TMState} {r q : WordShape} :
    tryJoinR K rt qt s r q = some s' ↔
      ∃ rnext p rs, rt.words[r.offset + 1]? = some rnext ∧ r.len + r.dist rnext ≤ q.len ∧
        s.rm[r.offset + 1]? = some none ∧ wordMatch K rt (r.join rnext) qt q = some p ∧
        p.1.split K r rnext = some rs ∧
        s' = { rm := setAt (setAt s.rm rs.1.offset rs.1) rs.2.offset rs.2, qm := setAt s.qm p.2.offset p.2,
               cand := none } := by
  simp only [tryJoinR_eq, Option.bind_eq_some_iff, Option.map_eq_some_iff, Option.ite_none_left_eq_some,
    Option.ite_none_right_eq_some, Nat.not_lt, exists_and_left, eq_comm (a := s')]

theorem tryJoinQ_eq_some {K : Consts} {rt qt : Text} {s s' : TMState} {r q : WordShape} :
    tryJoinQ K rt qt s r q = some s' ↔
      ∃ qnext p qs, qt.words[q.offset + 1]? = some qnext ∧ q.len + q.dist qnext ≤ r.len ∧
        s.qm[q.offset + 1]? = some none ∧ wordMatch K rt r qt (q.join qnext) = some p ∧
        p.2.split K q qnext = some qs ∧
        s' = { rm := setAt s.rm p.1.offset p.1, qm := setAt (setAt s.qm qs.1.offset qs.1) qs.2.offset qs.2,
               cand := none } := by
  simp only [tryJoinQ_eq, Option.bind_eq_some_iff, Option.map_eq_some_iff, Option.ite_none_left_eq_some,
    Option.ite_none_right_eq_some, Nat.not_lt, exists_and_left, eq_comm (a := s')]

/-- one of the three closures of the scan body succeeds for the query word `q`; it emits the record matches `rms`
    and the query matches `qms` -/
inductive Fired (K : Consts) (rt qt : Text) (q : WordShape) : List WMatch → List WMatch → Prop
  | plain {r : WordShape} {p : WMatch × WMatch} (hr : r ∈ rt.words) (h : wordMatch K rt r qt q = some p) :
      Fired K rt qt q [p.1] [p.2]
  | joinR {r rnext : WordShape} {p rs : WMatch × WMatch} (hr : r ∈ rt.words)
      (hn : rt.words[r.offset + 1]? = some rnext) (hlen : r.len + r.dist rnext ≤ q.len)
      (h : wordMatch K rt (r.join rnext) qt q = some p) (hs : p.1.split K r rnext = some rs) :
      Fired K rt qt q [rs.1, rs.2] [p.2]
  | joinQ {r qnext : WordShape} {p qs : WMatch × WMatch} (hr : r ∈ rt.words)
      (hn : qt.words[q.offset + 1]? = some qnext) (hlen : q.len + q.dist qnext ≤ r.len)
      (h : wordMatch K rt r qt (q.join qnext) = some p) (hs : p.2.split K q qnext = some qs) :
      Fired K rt qt q [p.1] [qs.1, qs.2]

/-- `s'` is the vectors `rm`, `qm` after a closure fired for `q`: what it emitted is stored, into slots that were
    free, and one of the query matches sits in `q`'s own slot -/
def Stores (K : Consts) (rt qt : Text) (q : WordShape) (rm qm : List (Option WMatch)) (s' : TMState) : Prop :=
  ∃ rms qms, Fired K rt qt q rms qms ∧ Fresh rm rms ∧ Fresh qm qms ∧ (∃ m ∈ qms, m.offset = q.offset) ∧
    s' = { rm := store rm rms, qm := store qm qms, cand := none }

theorem Stores.commit {K : Consts} {rt qt : Text} {q : WordShape} {rm qm : List (Option WMatch)} {s' : TMState}
    (h : Stores K rt qt q rm qm s') : tmCommit s' = s' := by
  obtain ⟨_, _, _, _, _, _, rfl⟩ := h; rfl

/-! ### the scan for one query word -/

structure SInv (rt qt : Text) (s : TMState) : Prop where
  rlen : s.rm.length = rt.words.length
  qlen : s.qm.length = qt.words.length

/-- invariant of the scan for the query word `q`; `cand` is what keeps the pending candidate's offsets in range -/
structure ScanInv (K : Consts) (rt qt : Text) (q : WordShape) (s : TMState) : Prop extends SInv rt qt s where
  qfree : isSet s.qm q.offset = false
  cand  : ∀ p, s.cand = some p → ∃ r ∈ rt.words, wordMatch K rt r qt q = some p ∧ isSet s.rm r.offset = false

theorem SInv.scanInv {K : Consts} {rt qt : Text} {q : WordShape} {s : TMState} (hs : SInv rt qt s)
    (hqf : isSet s.qm q.offset = false) : ScanInv K rt qt q { s with cand := none } :=
  ⟨⟨hs.rlen, hs.qlen⟩, hqf, nofun⟩

theorem ScanInv.cand_range {K : Consts} {rt qt : Text} {q : WordShape} {s : TMState} (h : ScanInv K rt qt q s)
    (hrt : OffsetsOK rt) {p : WMatch × WMatch} (hp : s.cand = some p) :
    p.1.offset < rt.words.length ∧ p.2.offset = q.offset ∧ isSet s.rm p.1.offset = false := by
  obtain ⟨r, hr, hwm, hf⟩ := h.cand p hp
  rw [wordMatch_r_offset hwm, wordMatch_q_offset hwm]
  exact ⟨hrt.lt_of_mem hr, rfl, hf⟩

def AnyClosure (K : Consts) (rt qt : Text) (s : TMState) (r q : WordShape) : Prop :=
  wordMatch K rt r qt q ≠ none ∨ tryJoinR K rt qt s r q ≠ none ∨ tryJoinQ K rt qt s r q ≠ none

theorem AnyClosure.congr {K : Consts} {rt qt : Text} {s s' : TMState} (h1 : s'.rm = s.rm) (h2 : s'.qm = s.qm)
    {r q : WordShape} (h : AnyClosure K rt qt s r q) : AnyClosure K rt qt s' r q := by
  unfold AnyClosure tryJoinR tryJoinQ at h ⊢
  rw [h1, h2]; exact h

/-- One step of the scan, at a record word whose slot is free. Left: a join closure fired, its matches are stored and
    the scan stops. Right: the vectors are unchanged and `ScanInv` holds again; a candidate is pending afterwards if
    one was before or any closure succeeds here, and the scan stops only with a candidate pending. -/
theorem tmStep_spec {K : Consts} {rt qt : Text} (hrt : OffsetsOK rt) (hqt : OffsetsOK qt) {s : TMState}
    {r q : WordShape} (hq : q ∈ qt.words) (hs : ScanInv K rt qt q s) (hr : r ∈ rt.words)
    (hfree : isSet s.rm r.offset = false) :
    (Stores K rt qt q s.rm s.qm (tmStep K rt qt q s r).1 ∧ (tmStep K rt qt q s r).2 = true) ∨
    ((tmStep K rt qt q s r).1.rm = s.rm ∧ (tmStep K rt qt q s r).1.qm = s.qm ∧
      ScanInv K rt qt q (tmStep K rt qt q s r).1 ∧
      ((s.cand.isSome ∨ AnyClosure K rt qt s r q) → (tmStep K rt qt q s r).1.cand.isSome) ∧
      ((tmStep K rt qt q s r).2 = true → (tmStep K rt qt q s r).1.cand.isSome)) := by
  have hql : q.offset < s.qm.length := hs.qlen ▸ hqt.lt_of_mem hq
  unfold tmStep
  cases hn1 : tryJoinR K rt qt s r q with
  | some s' =>
    obtain ⟨rnext, p, rs, hn, hlen, hslot, hwm, hsp, rfl⟩ := tryJoinR_eq_some.mp hn1
    obtain ⟨_, rfl⟩ := split_eq_some.mp hsp
    exact .inl ⟨⟨_, _, .joinR hr hn hlen hwm hsp,
      fresh_two rfl (hrt.offset_of_get hn).1 hfree hslot,
      fresh_one (wordMatch_q_offset hwm) hql hs.qfree, ⟨_, List.mem_cons_self, wordMatch_q_offset hwm⟩, rfl⟩, rfl⟩
  | none =>
    cases hn2 : tryJoinQ K rt qt s r q with
    | some s' =>
      obtain ⟨qnext, p, qs, hn, hlen, hslot, hwm, hsp, rfl⟩ := tryJoinQ_eq_some.mp hn2
      obtain ⟨_, rfl⟩ := split_eq_some.mp hsp
      exact .inl ⟨⟨_, _, .joinQ hr hn hlen hwm hsp,
        fresh_one (wordMatch_r_offset hwm) (hs.rlen ▸ hrt.lt_of_mem hr) hfree,
        fresh_two rfl (hqt.offset_of_get hn).1 hs.qfree hslot, ⟨_, List.mem_cons_self, rfl⟩, rfl⟩, rfl⟩
    | none =>
      refine .inr ?_
      simp only []
      cases h3 : wordMatch K rt r qt q with
      | none =>
        refine ⟨rfl, rfl, hs, ?_, by simp⟩
        rintro (h | h | h | h)
        · exact h
        · exact absurd h3 h
        · exact absurd hn1 h
        · exact absurd hn2 h
      | some p =>
        simp only []
        split
        · refine ⟨rfl, rfl, ⟨⟨hs.rlen, hs.qlen⟩, hs.qfree, ?_⟩, fun _ => rfl, fun _ => rfl⟩
          intro p' hp
          cases hp
          exact ⟨r, hr, h3, hfree⟩
        · rename_i hrep
          refine ⟨rfl, rfl, hs, fun _ => ?_, by simp⟩
          cases hc : s.cand with
          | none => simp [shouldReplace, hc] at hrep
          | some p => rfl

/-- The same two cases for the scan of a list of record words: a join fired somewhere, or nothing was stored and a
    candidate is pending if one was or if any closure succeeds on a word of the list whose slot is free. -/
theorem tmScan_spec {K : Consts} {rt qt : Text} (hrt : OffsetsOK rt) (hqt : OffsetsOK qt) {q : WordShape}
    (hq : q ∈ qt.words) :
    ∀ (rs : List WordShape) (s : TMState), (∀ r ∈ rs, r ∈ rt.words) → ScanInv K rt qt q s →
      Stores K rt qt q s.rm s.qm (tmScan K rt qt q rs s) ∨
      ((tmScan K rt qt q rs s).rm = s.rm ∧ (tmScan K rt qt q rs s).qm = s.qm ∧
        ScanInv K rt qt q (tmScan K rt qt q rs s) ∧
        ((s.cand.isSome ∨ ∃ r ∈ rs, isSet s.rm r.offset = false ∧ AnyClosure K rt qt s r q) →
          (tmScan K rt qt q rs s).cand.isSome)) := by
  intro rs
  induction rs with
  | nil =>
    intro s _ hs
    refine .inr ⟨rfl, rfl, hs, ?_⟩
    rintro (h | ⟨r, hr, _⟩)
    · exact h
    · simp at hr
  | cons r rs ih =>
    intro s hmem hs
    have hmem' : ∀ r' ∈ rs, r' ∈ rt.words := fun r' h => hmem r' (List.mem_cons_of_mem _ h)
    unfold tmScan
    split
    · rename_i htaken
      rcases ih s hmem' hs with h | ⟨h1, h2, h3, h4⟩
      · exact .inl h
      · refine .inr ⟨h1, h2, h3, ?_⟩
        rintro (h | ⟨r', hr', hf, hm⟩)
        · exact h4 (.inl h)
        · rcases List.mem_cons.mp hr' with e | e
          · subst e; rw [htaken] at hf; cases hf
          · exact h4 (.inr ⟨r', e, hf, hm⟩)
    · rename_i hfree
      have hfree : isSet s.rm r.offset = false := by simpa using hfree
      have hstep := tmStep_spec hrt hqt hq hs (hmem r (List.mem_cons_self)) hfree
      generalize tmStep K rt qt q s r = res at hstep
      obtain ⟨s', stop⟩ := res
      simp only [] at hstep ⊢
      rcases hstep with ⟨h, hstop⟩ | ⟨h1, h2, h3, h4, h5⟩
      · subst hstop; exact .inl h
      · cases stop with
        | true => exact .inr ⟨h1, h2, h3, fun _ => h5 rfl⟩
        | false =>
          simp only [Bool.false_eq_true, if_false]
          -- a later join fires on the unchanged vectors
          rcases ih s' hmem' h3 with h | ⟨g1, g2, g3, g4⟩
          · exact .inl (h1 ▸ h2 ▸ h)
          · refine .inr ⟨g1.trans h1, g2.trans h2, g3, ?_⟩
            rintro (h | ⟨r', hr', hf, hm⟩)
            · exact g4 (.inl (h4 (.inl h)))
            · rcases List.mem_cons.mp hr' with e | e
              · subst e; exact g4 (.inl (h4 (.inr hm)))
              · exact g4 (.inr ⟨r', e, by rw [h1]; exact hf, hm.congr h1 h2⟩)

/-! ### commit, one query word, the whole fold -/

/-- the three ways the loop body for the query word `q` can end -/
inductive QueryOut (K : Consts) (rt qt : Text) (q : WordShape) (s s' : TMState) : Prop
  | skip  (hq : isSet s.qm q.offset = true) (e : s' = s)
  | fired (hq : isSet s.qm q.offset = false) (h : Stores K rt qt q s.rm s.qm s')
  | miss  (hq : isSet s.qm q.offset = false) (hrm : s'.rm = s.rm) (hqm : s'.qm = s.qm)
          (hnone : ∀ r ∈ rt.words, isSet s.rm r.offset = false → ¬ AnyClosure K rt qt s r q)

theorem tmQuery_spec {K : Consts} {rt qt : Text} (hrt : OffsetsOK rt) (hqt : OffsetsOK qt) {s : TMState}
    (hs : SInv rt qt s) {q : WordShape} (hq : q ∈ qt.words) : QueryOut K rt qt q s (tmQuery K rt qt s q) := by
  unfold tmQuery
  split
  · rename_i h; exact .skip h rfl
  · rename_i hqf
    have hqf : isSet s.qm q.offset = false := by simpa using hqf
    rcases tmScan_spec hrt hqt hq rt.words _ (fun _ h => h) (hs.scanInv hqf) with h | ⟨h1, h2, h3, h4⟩
    · rw [h.commit]; exact .fired hqf h
    · generalize tmScan K rt qt q rt.words { s with cand := none } = s1 at h1 h2 h3 h4
      unfold tmCommit
      split
      · rename_i hc
        refine .miss hqf h1 h2 fun r hr hf hany => ?_
        have := h4 (.inr ⟨r, hr, hf, hany.congr (s := s) rfl rfl⟩)
        simp [hc] at this
      · rename_i rmm qmm hc
        obtain ⟨r, hr, hwm, hf⟩ := h3.cand _ hc
        exact .fired hqf (h1 ▸ h2 ▸ ⟨_, _, .plain hr hwm,
          fresh_one (wordMatch_r_offset hwm) (h3.rlen ▸ hrt.lt_of_mem hr) hf,
          fresh_one (wordMatch_q_offset hwm) (h3.qlen ▸ hqt.lt_of_mem hq) h3.qfree,
          ⟨_, List.mem_cons_self, wordMatch_q_offset hwm⟩, rfl⟩)

theorem Fired.exists_rmatch {K : Consts} {rt qt : Text} {q : WordShape} {rms qms : List WMatch}
    (h : Fired K rt qt q rms qms) : ∃ m, m ∈ rms := by
  cases h <;> exact ⟨_, List.mem_cons_self⟩

theorem QueryOut.mono {K : Consts} {rt qt : Text} {q : WordShape} {s s' : TMState}
    (h : QueryOut K rt qt q s s') : Ext s.rm s'.rm ∧ Ext s.qm s'.qm := by
  cases h with
  | skip hq e => subst e; exact ⟨Ext.refl _, Ext.refl _⟩
  | fired hq h => obtain ⟨_, _, _, hr, hq, _, rfl⟩ := h; exact ⟨Ext.store hr, Ext.store hq⟩
  | miss hq hrm hqm _ => rw [hrm, hqm]; exact ⟨Ext.refl _, Ext.refl _⟩

theorem QueryOut.sinv {K : Consts} {rt qt : Text} {q : WordShape} {s s' : TMState}
    (h : QueryOut K rt qt q s s') (hs : SInv rt qt s) : SInv rt qt s' :=
  ⟨h.mono.1.1.trans hs.rlen, h.mono.2.1.trans hs.qlen⟩

theorem QueryOut.vecOK {K : Consts} {rt qt : Text} {q : WordShape} {s s' : TMState} (h : QueryOut K rt qt q s s')
    {P Q : WMatch → Prop} (hPQ : ∀ rms qms, Fired K rt qt q rms qms → (∀ m ∈ rms, P m) ∧ (∀ m ∈ qms, Q m))
    {n k : Nat} (hr : VecOK P n s.rm) (hq : VecOK Q k s.qm) : VecOK P n s'.rm ∧ VecOK Q k s'.qm := by
  cases h with
  | skip _ e => subst e; exact ⟨hr, hq⟩
  | fired _ h => obtain ⟨_, _, hF, _, _, _, rfl⟩ := h; exact ⟨hr.store (hPQ _ _ hF).1, hq.store (hPQ _ _ hF).2⟩
  | miss _ hrm hqm _ => rw [hrm, hqm]; exact ⟨hr, hq⟩

theorem QueryOut.stores {K : Consts} {rt qt : Text} {q : WordShape} {s s' : TMState}
    (h : QueryOut K rt qt q s s') (hfree : isSet s.qm q.offset = false)
    (hw : ∃ w ∈ rt.words, isSet s.rm w.offset = false ∧ AnyClosure K rt qt s w q) :
    Stores K rt qt q s.rm s.qm s' := by
  cases h with
  | skip hq' e => rw [hfree] at hq'; cases hq'
  | fired _ h => exact h
  | miss _ _ _ hnone =>
    obtain ⟨w, hw, hf, hm⟩ := hw
    exact absurd hm (hnone w hw hf)

theorem Stores.survive {K : Consts} {rt qt : Text} {q : WordShape} {rm qm : List (Option WMatch)} {s' : TMState}
    (h : Stores K rt qt q rm qm s') :
    isSet s'.qm q.offset = true ∧ ∃ i, isSet rm i = false ∧ isSet s'.rm i = true := by
  obtain ⟨rms, qms, hF, hr, hq, ⟨m', hm', e⟩, rfl⟩ := h
  obtain ⟨m, hm⟩ := hF.exists_rmatch
  exact ⟨isSet_iff.mpr ⟨m', e ▸ getElem?_store hq hm'⟩, m.offset, (hr.2 m hm).2,
    isSet_iff.mpr ⟨m, getElem?_store hr hm⟩⟩

/-- the three cases are those the search filter asks for (`hitMatches_of_counts`) -/
theorem Stores.survive_counts {K : Consts} {rt qt : Text} {q : WordShape} {rm qm : List (Option WMatch)}
    {s' : TMState} (h : Stores K rt qt q rm qm s') :
    (∃ a b : WMatch, a.offset ≠ b.offset ∧ s'.rm[a.offset]? = some (some a) ∧ s'.rm[b.offset]? = some (some b)) ∨
    (∃ a b : WMatch, a.offset ≠ b.offset ∧ s'.qm[a.offset]? = some (some a) ∧ s'.qm[b.offset]? = some (some b)) ∨
    ∃ i m, s'.rm[i]? = some (some m) ∧ isSet rm i = false ∧ (q.fin = true → m.fin = true) := by
  obtain ⟨rms, qms, hF, hr, hq, _, rfl⟩ := h
  cases hF with
  | plain _ hwm =>
    exact .inr (.inr ⟨_, _, getElem?_store hr List.mem_cons_self, (hr.2 _ List.mem_cons_self).2,
      fun hfin => (wordMatch_fin hwm hfin).1⟩)
  | joinR =>
    exact .inl ⟨_, _, (List.pairwise_cons.mp hr.1).1 _ List.mem_cons_self, getElem?_store hr List.mem_cons_self,
      getElem?_store hr (by simp)⟩
  | joinQ =>
    exact .inr (.inl ⟨_, _, (List.pairwise_cons.mp hq.1).1 _ List.mem_cons_self,
      getElem?_store hq List.mem_cons_self, getElem?_store hq (by simp)⟩)

theorem fold_spec {K : Consts} {rt qt : Text} (hrt : OffsetsOK rt) (hqt : OffsetsOK qt) {P Q : WMatch → Prop}
    (hPQ : ∀ q ∈ qt.words, ∀ rms qms, Fired K rt qt q rms qms → (∀ m ∈ rms, P m) ∧ (∀ m ∈ qms, Q m)) :
    ∀ (qs : List WordShape) (s : TMState), (∀ q ∈ qs, q ∈ qt.words) →
      VecOK P rt.words.length s.rm → VecOK Q qt.words.length s.qm →
      (VecOK P rt.words.length (qs.foldl (tmQuery K rt qt) s).rm ∧
        VecOK Q qt.words.length (qs.foldl (tmQuery K rt qt) s).qm) ∧
      Ext s.rm (qs.foldl (tmQuery K rt qt) s).rm ∧ Ext s.qm (qs.foldl (tmQuery K rt qt) s).qm := by
  intro qs
  induction qs with
  | nil => intro s _ hr hq; exact ⟨⟨hr, hq⟩, Ext.refl _, Ext.refl _⟩
  | cons q qs ih =>
    intro s hqs hr hq
    have h1 := tmQuery_spec (K := K) hrt hqt ⟨hr.1, hq.1⟩ (hqs q (by simp))
    have h2 := h1.vecOK (hPQ q (hqs q (by simp))) hr hq
    obtain ⟨g1, g2, g3⟩ := ih _ (fun x hx => hqs x (by simp [hx])) h2.1 h2.2
    exact ⟨g1, h1.mono.1.trans g2, h1.mono.2.trans g3⟩

def tmInit (rt qt : Text) : TMState :=
  { rm := List.replicate rt.words.length none, qm := List.replicate qt.words.length none, cand := none }

theorem textMatch_eq (K : Consts) (rt qt : Text) :
    textMatch K rt qt = (((qt.words.foldl (tmQuery K rt qt) (tmInit rt qt)).rm.filterMap id),
                         ((qt.words.foldl (tmQuery K rt qt) (tmInit rt qt)).qm.filterMap id)) := rfl

theorem textMatch_lengths (K : Consts) (rt qt : Text) :
    (textMatch K rt qt).1.length = cntSet (qt.words.foldl (tmQuery K rt qt) (tmInit rt qt)).rm ∧
    (textMatch K rt qt).2.length = cntSet (qt.words.foldl (tmQuery K rt qt) (tmInit rt qt)).qm := ⟨rfl, rfl⟩

/-- **induction principle for what `text_match` returns**: both lists are sorted by strictly increasing word
    offset (at most one match per word), offsets are word positions, and whatever holds of everything a closure
    can emit holds of every returned match -/
theorem textMatch_of_fired {K : Consts} {rt qt : Text} (hrt : OffsetsOK rt) (hqt : OffsetsOK qt) {P Q : WMatch → Prop}
    (hPQ : ∀ q ∈ qt.words, ∀ rms qms, Fired K rt qt q rms qms → (∀ m ∈ rms, P m) ∧ (∀ m ∈ qms, Q m)) :
    ((textMatch K rt qt).1.Pairwise (fun a b => a.offset < b.offset) ∧
      ∀ m ∈ (textMatch K rt qt).1, m.offset < rt.words.length ∧ P m) ∧
    ((textMatch K rt qt).2.Pairwise (fun a b => a.offset < b.offset) ∧
      ∀ m ∈ (textMatch K rt qt).2, m.offset < qt.words.length ∧ Q m) := by
  obtain ⟨⟨h1, h2⟩, _⟩ := fold_spec hrt hqt hPQ qt.words (tmInit rt qt) (fun _ h => h) (VecOK.replicate _ _)
    (VecOK.replicate _ _)
  exact ⟨h1.filterMap, h2.filterMap⟩

theorem fold_at {K : Consts} {rt qt : Text} (hrt : OffsetsOK rt) (hqt : OffsetsOK qt)
    {pre post : List WordShape} {q : WordShape} (hsplit : qt.words = pre ++ q :: post) :
    QueryOut K rt qt q (pre.foldl (tmQuery K rt qt) (tmInit rt qt))
      (tmQuery K rt qt (pre.foldl (tmQuery K rt qt) (tmInit rt qt)) q) ∧
    Ext (tmQuery K rt qt (pre.foldl (tmQuery K rt qt) (tmInit rt qt)) q).rm
      (qt.words.foldl (tmQuery K rt qt) (tmInit rt qt)).rm ∧
    Ext (tmQuery K rt qt (pre.foldl (tmQuery K rt qt) (tmInit rt qt)) q).qm
      (qt.words.foldl (tmQuery K rt qt) (tmInit rt qt)).qm := by
  have hT : ∀ q ∈ qt.words, ∀ rms qms, Fired K rt qt q rms qms → (∀ m ∈ rms, True) ∧ (∀ m ∈ qms, True) :=
    fun _ _ _ _ _ => ⟨fun _ _ => trivial, fun _ _ => trivial⟩
  have hmem : ∀ x ∈ pre ++ q :: post, x ∈ qt.words := fun x hx => hsplit ▸ hx
  obtain ⟨⟨hr, hq⟩, _⟩ := fold_spec hrt hqt hT pre (tmInit rt qt) (fun x hx => hmem x (by simp [hx]))
    (VecOK.replicate _ _) (VecOK.replicate _ _)
  rw [hsplit, List.foldl_append, List.foldl_cons]
  have hout := tmQuery_spec (K := K) hrt hqt ⟨hr.1, hq.1⟩ (hmem q (by simp))
  have h2 := hout.vecOK (hT q (hmem q (by simp))) hr hq
  exact ⟨hout, (fold_spec hrt hqt hT post _ (fun x hx => hmem x (by simp [hx])) h2.1 h2.2).2⟩

theorem filterMap_ne_nil_of_isSet {l : List (Option WMatch)} {i : Nat} (h : isSet l i = true) : l.filterMap id ≠ [] := by
  obtain ⟨m, hm⟩ := isSet_iff.mp h
  exact List.ne_nil_of_mem (mem_filterMap_id.mpr ⟨i, hm⟩)

/-- first-word survival, any closure: if for the FIRST query word one of the three closures succeeds on some record
    word in the initial state, `text_match` returns at least one record match and at least one query match -/
theorem textMatch_nonempty_any {K : Consts} {rt qt : Text} (hrt : OffsetsOK rt) (hqt : OffsetsOK qt)
    (q0 : WordShape) (hq0 : qt.words[0]? = some q0)
    (hw : ∃ w ∈ rt.words, AnyClosure K rt qt (tmInit rt qt) w q0) :
    (textMatch K rt qt).1 ≠ [] ∧ (textMatch K rt qt).2 ≠ [] := by
  obtain ⟨post, hsplit⟩ := List.head?_eq_some_iff.mp (List.head?_eq_getElem?.trans hq0)
  obtain ⟨w, hw, hm⟩ := hw
  obtain ⟨hout, e1, e2⟩ := fold_at (K := K) (pre := []) hrt hqt hsplit
  obtain ⟨h1, i, _, h2⟩ := (hout.stores (isSet_replicate _ _) ⟨w, hw, isSet_replicate _ _, hm⟩).survive
  rw [textMatch_eq]
  exact ⟨filterMap_ne_nil_of_isSet (e1.isSet h2), filterMap_ne_nil_of_isSet (e2.isSet h1)⟩

/-- `textMatch_nonempty`: if the FIRST query word matches some record word, `text_match` returns at least one
    record match and at least one query match -/
theorem textMatch_nonempty {K : Consts} {rt qt : Text} (hrt : OffsetsOK rt) (hqt : OffsetsOK qt)
    (q0 : WordShape) (hq0 : qt.words[0]? = some q0)
    (hw : ∃ w ∈ rt.words, wordMatch K rt w qt q0 ≠ none) :
    (textMatch K rt qt).1 ≠ [] ∧ (textMatch K rt qt).2 ≠ [] := by
  obtain ⟨w, hw, hm⟩ := hw
  exact textMatch_nonempty_any hrt hqt q0 hq0 ⟨w, hw, Or.inl hm⟩

/-- what the filter needs about the first query word: if one of the closures succeeds for it on some record word
    then `text_match` returns two or more record matches, or two or more query matches, or a record match that
    is `fin` whenever the first query word is finished -/
theorem textMatch_first_counts_any {K : Consts} {rt qt : Text} (hrt : OffsetsOK rt) (hqt : OffsetsOK qt)
    (q0 : WordShape) (hq0 : qt.words[0]? = some q0)
    (hw : ∃ w ∈ rt.words, AnyClosure K rt qt (tmInit rt qt) w q0) :
    2 ≤ (textMatch K rt qt).1.length ∨ 2 ≤ (textMatch K rt qt).2.length ∨
    ∃ m ∈ (textMatch K rt qt).1, (q0.fin = true → m.fin = true) := by
  obtain ⟨post, hsplit⟩ := List.head?_eq_some_iff.mp (List.head?_eq_getElem?.trans hq0)
  obtain ⟨w, hw, hm⟩ := hw
  obtain ⟨hout, e1, e2⟩ := fold_at (K := K) (pre := []) hrt hqt hsplit
  rw [textMatch_eq]
  rcases (hout.stores (isSet_replicate _ _) ⟨w, hw, isSet_replicate _ _, hm⟩).survive_counts with
    ⟨a, b, hab, ha, hb⟩ | ⟨a, b, hab, ha, hb⟩ | ⟨i, m, h, _, hfin⟩
  · exact .inl (two_le_length_filterMap hab ⟨_, e1.2 _ _ ha⟩ ⟨_, e1.2 _ _ hb⟩)
  · exact .inr (.inl (two_le_length_filterMap hab ⟨_, e2.2 _ _ ha⟩ ⟨_, e2.2 _ _ hb⟩))
  · exact .inr (.inr ⟨m, mem_filterMap_id.mpr ⟨i, e1.2 i m h⟩, hfin⟩)

theorem textMatch_first_counts {K : Consts} {rt qt : Text} (hrt : OffsetsOK rt) (hqt : OffsetsOK qt)
    (q0 : WordShape) (hq0 : qt.words[0]? = some q0)
    (hw : ∃ w ∈ rt.words, wordMatch K rt w qt q0 ≠ none) :
    2 ≤ (textMatch K rt qt).1.length ∨ 2 ≤ (textMatch K rt qt).2.length ∨
    ∃ m ∈ (textMatch K rt qt).1, (q0.fin = true → m.fin = true) := by
  obtain ⟨w, hw, hm⟩ := hw
  exact textMatch_first_counts_any hrt hqt q0 hq0 ⟨w, hw, Or.inl hm⟩

/-! ### when the join closures fire -/

theorem tmInit_rm_get {rt qt : Text} {i : Nat} (h : i < rt.words.length) : (tmInit rt qt).rm[i]? = some none := by
  simp [tmInit, h]

theorem tmInit_qm_get {rt qt : Text} {i : Nat} (h : i < qt.words.length) : (tmInit rt qt).qm[i]? = some none := by
  simp [tmInit, h]

theorem split_isSome_iff {K : Consts} {m : WMatch} {w1 w2 : WordShape} :
    (∃ p, m.split K w1 w2 = some p) ↔ w2.lo < w1.lo + m.subHi :=
  ⟨fun ⟨_, h⟩ => (split_eq_some.mp h).1, fun h => ⟨_, split_eq_some.mpr ⟨h, rfl⟩⟩⟩

theorem tryJoinR_ne_none_iff (K : Consts) (rt qt : Text) (s : TMState) (r q : WordShape) :
    tryJoinR K rt qt s r q ≠ none ↔
      ∃ rnext, rt.words[r.offset + 1]? = some rnext ∧ r.len + r.dist rnext ≤ q.len ∧
        s.rm[r.offset + 1]? = some none ∧
        ∃ p, wordMatch K rt (r.join rnext) qt q = some p ∧ rnext.lo < r.lo + p.1.subHi := by
  simp only [Option.ne_none_iff_exists', tryJoinR_eq_some, ← split_isSome_iff (K := K)]
  exact ⟨fun ⟨_, a, p, rs, h1, h2, h3, h4, h5, _⟩ => ⟨a, h1, h2, h3, p, h4, rs, h5⟩,
    fun ⟨a, h1, h2, h3, p, h4, rs, h5⟩ => ⟨_, a, p, rs, h1, h2, h3, h4, h5, rfl⟩⟩

theorem tryJoinQ_ne_none_iff (K : Consts) (rt qt : Text) (s : TMState) (r q : WordShape) :
    tryJoinQ K rt qt s r q ≠ none ↔
      ∃ qnext, qt.words[q.offset + 1]? = some qnext ∧ q.len + q.dist qnext ≤ r.len ∧
        s.qm[q.offset + 1]? = some none ∧
        ∃ p, wordMatch K rt r qt (q.join qnext) = some p ∧ qnext.lo < q.lo + p.2.subHi := by
  simp only [Option.ne_none_iff_exists', tryJoinQ_eq_some, ← split_isSome_iff (K := K)]
  exact ⟨fun ⟨_, a, p, rs, h1, h2, h3, h4, h5, _⟩ => ⟨a, h1, h2, h3, p, h4, rs, h5⟩,
    fun ⟨a, h1, h2, h3, p, h4, rs, h5⟩ => ⟨_, a, p, rs, h1, h2, h3, h4, h5, rfl⟩⟩

/-! ### running the scan forward on a given word list -/

theorem tryJoinR_none_of_last (K : Consts) (rt qt : Text) (s : TMState) (r q : WordShape)
    (h : rt.words[r.offset + 1]? = none) : tryJoinR K rt qt s r q = none := by
  unfold tryJoinR; rw [h]

theorem tryJoinR_none_of_short (K : Consts) (rt qt : Text) (s : TMState) (r q rnext : WordShape)
    (h : rt.words[r.offset + 1]? = some rnext) (hlen : q.len < r.len + r.dist rnext) :
    tryJoinR K rt qt s r q = none := by
  unfold tryJoinR; rw [h]; simp only [hlen, if_true]

theorem tryJoinQ_none_of_last (K : Consts) (rt qt : Text) (s : TMState) (r q : WordShape)
    (h : qt.words[q.offset + 1]? = none) : tryJoinQ K rt qt s r q = none := by
  unfold tryJoinQ; rw [h]

theorem tryJoinQ_none_of_short (K : Consts) (rt qt : Text) (s : TMState) (r q qnext : WordShape)
    (h : qt.words[q.offset + 1]? = some qnext) (hlen : r.len < q.len + q.dist qnext) :
    tryJoinQ K rt qt s r q = none := by
  unfold tryJoinQ; rw [h]; simp only [hlen, if_true]

theorem dist_of_gap {a b : WordShape} (ha : a.lo < a.hi) (hb : b.lo < b.hi) (h : a.hi < b.lo) : 1 ≤ a.dist b := by
  unfold WordShape.dist
  split <;> omega

/-- the scan for `q` passes over the record word `r` without a trace: its slot is taken, or none of the three
    closures succeeds on it -/
def Passes (K : Consts) (rt qt : Text) (q : WordShape) (s : TMState) (r : WordShape) : Prop :=
  isSet s.rm r.offset = true ∨
    (tryJoinR K rt qt s r q = none ∧ tryJoinQ K rt qt s r q = none ∧ wordMatch K rt r qt q = none)

section scan
variable {K : Consts} {rt qt : Text} {q : WordShape} {s : TMState}

theorem tmScan_passes {pre : List WordShape} (h : ∀ x ∈ pre, Passes K rt qt q s x) (rest : List WordShape) :
    tmScan K rt qt q (pre ++ rest) s = tmScan K rt qt q rest s := by
  induction pre with
  | nil => rfl
  | cons x pre ih =>
    rw [List.cons_append, tmScan, ← ih fun y hy => h y (List.mem_cons_of_mem _ hy)]
    rcases h x List.mem_cons_self with h | ⟨h1, h2, h3⟩
    · rw [if_pos h]
    · simp only [tmStep, h1, h2, h3, Bool.false_eq_true, if_false, ite_self]

theorem tmQuery_free (hq : isSet s.qm q.offset = false) (hc : s.cand = none) :
    tmQuery K rt qt s q = tmCommit (tmScan K rt qt q rt.words s) := by
  obtain ⟨rm, qm, c⟩ := s
  cases hc
  rw [tmQuery, if_neg (by simpa using hq)]

theorem tmQuery_none (hq : isSet s.qm q.offset = false) (hc : s.cand = none)
    (h : ∀ x ∈ rt.words, Passes K rt qt q s x) : tmQuery K rt qt s q = s := by
  rw [tmQuery_free hq hc, ← List.append_nil rt.words, tmScan_passes h, tmScan, tmCommit, hc]

variable {pre post : List WordShape} {r : WordShape} (hw : rt.words = pre ++ r :: post)
  (hq : isSet s.qm q.offset = false) (hc : s.cand = none) (hpre : ∀ x ∈ pre, Passes K rt qt q s x)
  (hr : isSet s.rm r.offset = false)
include hw hq hc hpre hr

/-- `hf`: the scan ends at `r` (the match of a function word stays a candidate while the scan goes on) -/
theorem tmQuery_hit (h1 : tryJoinR K rt qt s r q = none) (h2 : tryJoinQ K rt qt s r q = none)
    {p : WMatch × WMatch} (h3 : wordMatch K rt r qt q = some p) (hf : p.1.func = false ∨ post = []) :
    tmQuery K rt qt s q = { rm := setAt s.rm p.1.offset p.1, qm := setAt s.qm p.2.offset p.2, cand := none } := by
  obtain ⟨p1, p2⟩ := p
  rw [tmQuery_free hq hc, hw, tmScan_passes hpre, tmScan, if_neg (by simp [hr])]
  simp only [tmStep, h1, h2, h3, hc, shouldReplace, if_true]
  rcases hf with hf | rfl
  · simp only [] at hf
    simp only [hf, Bool.not_false, if_true]; rfl
  · simp only [tmScan, ite_self]; rfl

theorem tmQuery_joinR {s' : TMState} (h1 : tryJoinR K rt qt s r q = some s') : tmQuery K rt qt s q = s' := by
  obtain ⟨_, _, _, _, _, _, _, _, rfl⟩ := tryJoinR_eq_some.mp h1
  rw [tmQuery_free hq hc, hw, tmScan_passes hpre, tmScan, if_neg (by simp [hr])]
  simp only [tmStep, h1, if_true]
  rfl

end scan

theorem textMatch_single_of_textOK (K : Consts) {rt qt : Text} {w v : WordShape} (hrt : TextOK rt) (hqt : TextOK qt)
    (hrw : rt.words = [w]) (hqw : qt.words = [v]) :
    (textMatch K rt qt).1 = match wordMatch K rt w qt v with
                            | none => []
                            | some p => [p.1] := by
  have hwo := offsets1 hrt hrw
  have hvo := offsets1 hqt hqw
  have hq : isSet (tmInit rt qt).qm v.offset = false := isSet_replicate _ _
  have h1 := tryJoinR_none_of_last K rt qt (tmInit rt qt) w v (by simp [hrw, hwo])
  have h2 := tryJoinQ_none_of_last K rt qt (tmInit rt qt) w v (by simp [hqw, hvo])
  rw [textMatch_eq]
  simp only [hqw, List.foldl_cons, List.foldl_nil]
  cases hm : wordMatch K rt w qt v with
  | none =>
    rw [tmQuery_none hq rfl (by simpa [hrw] using .inr ⟨h1, h2, hm⟩)]
    simp [tmInit]
  | some p =>
    rw [tmQuery_hit (pre := []) (post := []) hrw hq rfl (by simp) (isSet_replicate _ _) h1 h2 hm (.inr rfl)]
    simp [tmInit, hrw, setAt, wordMatch_r_offset hm, hwo]

end Lucid
