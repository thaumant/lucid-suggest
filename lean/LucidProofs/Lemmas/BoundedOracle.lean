/-
  LucidProofs.Lemmas.BoundedOracle — a character oracle that is a finite table below a bound `B` and inert
  from `B` on (`to_lowercase` is the identity, nothing is alphanumeric) meets `UnicodeFacts` as soon as the
  per-character facts hold for the scalars below `B`, which one kernel-decidable sweep establishes.
-/
import LucidProofs.Lemmas.Facts

namespace Lucid

/-- The per-character content of `UnicodeFacts` at `c`. The punctuation set is kept out of the sweep
    (`List.contains` on it is what makes a sweep dear): a character that `to_lowercase` changes is required to
    be alphanumeric, so separator-ness is preserved because neither it nor its image is a separator. -/
def factsAt (U : Unicode) (c : Nat) : Bool :=
  (!U.isAlnum c || !(U.isWhitespace c || U.isControl c)) &&
  (U.isAlnum (U.lower1 c) == U.isAlnum c) &&
  (U.isAlphabetic (U.lower1 c) == U.isAlphabetic c) &&
  (U.lower1 c == c || U.isAlnum c) &&
  (U.lower1 (U.lower1 c) == U.lower1 c) &&
  (!U.isUppercase (U.lower1 c) || U.lower1 c == c)

structure BoundedOracle (U : Unicode) (K : Consts) (B : Nat) : Prop where
  below : (List.range B).all (factsAt U) = true
  above : ∀ c, B ≤ c → U.lower1 c = c ∧ U.isAlnum c = false
  punct : K.punctuation.all (fun p => !U.isAlnum p) = true
  nul   : U.isControl 0 = true

namespace BoundedOracle
variable {U : Unicode} {K : Consts} {B : Nat} (h : BoundedOracle U K B)
include h

theorem all (c : Nat) : factsAt U c = true := by
  by_cases hc : c < B
  · exact List.all_eq_true.1 h.below c (List.mem_range.2 hc)
  · obtain ⟨hl, ha⟩ := h.above c (by omega)
    simp [factsAt, hl, ha]

theorem sep_not_alnum (c : Nat) (hs : isSepChar U K c = true) : U.isAlnum c = false := by
  have h1 := h.all c
  have h2 := List.all_eq_true.1 h.punct c
  simp only [isSepChar] at hs h2
  simp only [factsAt, Bool.and_eq_true, Bool.or_eq_true, Bool.not_eq_true'] at h1
  cases ha : U.isAlnum c with
  | false => rfl
  | true => simp_all

theorem sepLower (c : Nat) : isSepChar U K (U.lower1 c) = isSepChar U K c := by
  have h1 := h.all c
  simp only [factsAt, Bool.and_eq_true, Bool.or_eq_true, beq_iff_eq] at h1
  exact sepLower_of_alnum h.sep_not_alnum c h1.1.1.1.1.2 h1.1.1.2

theorem facts : UnicodeFacts U K := by
  have key := fun c => by simpa [factsAt] using h.all c
  refine ⟨h.sep_not_alnum, fun c => (key c).1.1.1.1.2, fun c => (key c).1.1.1.2, fun c hs => ?_,
    fun c => (key c).1.2, fun c hu => ?_, h.nul⟩
  · rw [h.sepLower]; exact hs
  · have := (key c).2; simp_all

end BoundedOracle

end Lucid
