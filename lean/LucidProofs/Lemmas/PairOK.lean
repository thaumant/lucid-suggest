/-
  LucidProofs.Lemmas.PairOK — the interface predicate `WordMatchOK` (`Lemmas/MatchFacts.lean`) proved from
  the characterisation of `word_match` (`Lemmas/WordMatchSpec.lean`) for every `K` with `CostsOK K` and
  `ThresholdOK K` (`wordMatchOK`), and the exact-prefix results: a query word that is a prefix of the record word
  yields the zero-typo pair `(k, k)` whenever that pair passes the guards (`wordMatch_diag_of_prefix`), as it does
  when the query word is unfinished (`wordMatch_exact_prefix`, `wordMatch_exact_prefix_some`).
-/
import LucidProofs.Lemmas.WordMatchSpec

namespace Lucid
open DL

/-- the relative distance threshold `DAMLEV_THRESHOLD = damNum/damDen` is at most 0.21, the source's value (and `damDen` is
    positive): the bound `score_arith` needs, i.e. what keeps the `usize` score `match_len - 2·⌈typos⌉` from wrapping (D1) -/
def ThresholdOK (K : Consts) : Bool := decide (0 < K.damDen) && decide (K.damNum * 100 ≤ 21 * K.damDen)

theorem thresholdOK_src : ThresholdOK Gen.srcConsts = true := by decide

theorem threshold_lin (K : Consts) (hT : ThresholdOK K = true) (d M : Nat)
    (h : ¬ K.damDen * d > K.damNum * 10 * M) : 10 * d ≤ 21 * M := by
  simp only [ThresholdOK, Bool.and_eq_true, decide_eq_true_eq] at hT
  obtain ⟨hpos, hle⟩ := hT
  have h1 : K.damDen * d ≤ K.damNum * 10 * M := Nat.le_of_not_gt h
  have h2 : K.damDen * (10 * d) ≤ K.damDen * (21 * M) := by
    calc K.damDen * (10 * d) = 10 * (K.damDen * d) := by
            rw [Nat.mul_left_comm]
      _ ≤ 10 * (K.damNum * 10 * M) := Nat.mul_le_mul_left _ h1
      _ = (K.damNum * 100) * M := by
            rw [Nat.mul_assoc K.damNum 10 M, Nat.mul_left_comm 10 K.damNum, ← Nat.mul_assoc 10 10 M,
              ← Nat.mul_assoc K.damNum]
      _ ≤ (21 * K.damDen) * M := Nat.mul_le_mul_right _ hle
      _ = K.damDen * (21 * M) := by
            rw [Nat.mul_comm 21 K.damDen, Nat.mul_assoc]
  exact Nat.le_of_mul_le_mul_left h2 hpos

/-- the arithmetic fact behind `match_len - 2*ceil(typos)`: an accepted distance `d` (multiple of 0.5, at
    most 0.21 per character of the longer slice) with slices differing by at most one satisfies
    `2·⌈d⌉ ≤ rslice` -/
theorem score_arith (d qs rs : Nat) (hlin : 10 * d ≤ 21 * max (max qs rs) 1) (hnear : qs ≤ rs + 1)
    (hmod : d % 5 = 0) : 2 * ceilTenths d ≤ rs := by
  unfold ceilTenths
  have : max (max qs rs) 1 ≤ rs + 1 := by omega
  omega

/-- **`word_match` guarantees `PairOK`**: for every `K` with well-formed edit costs and a relative distance
    threshold of at most 0.21, whatever `word_match` returns for two words lying in their texts (stems ≥ 1)
    describes prefixes of the two words whose lengths differ by at most one, the record prefix is
    non-empty, both halves carry the same typos, and `2·⌈typos⌉` does not exceed the record prefix length. -/
theorem wordMatchOK (K : Consts) (hK : CostsOK K = true) (hT : ThresholdOK K = true) (rt qt : Text) :
    WordMatchOK K rt qt := by
  intro r q p hr hq hrs hqs h
  obtain ⟨_, _, rs, qs, acc, rfl, _⟩ := wordMatch_some hK hr hq h
  have hlin := threshold_lin K hT _ _ (of_decide_eq_false acc.rel)
  have hrpos : 1 ≤ rs := by
    -- `rs = 0` forces `qs = 1`, and deleting one character costs at least 0.5 > 0.21
    rcases Nat.eq_zero_or_pos rs with rfl | h0
    · exfalso
      obtain rfl : qs = 1 := by have := acc.near.2; have := acc.stem; omega
      have h5 := k_ge5 (cword K qt q) (cword_costPos K hK qt q) (cword_costMul5 K hK qt q)
        (cword_aligned K qt q hq.2.2) 0 (by rw [cword_len_of_wordIn K hq]; exact hq.len_pos)
      rw [sliceDist, D_succ_zero, D_zero_zero] at hlin
      omega
    · exact h0
  exact {
    r_off := rfl, r_lo := rfl, r_hi := rfl, r_sub0 := rfl, r_pos := hrpos, r_le := acc.r_le,
    q_off := rfl, q_lo := rfl, q_hi := rfl, q_sub0 := rfl, q_le := acc.q_le, typos := rfl,
    near := acc.near, score := score_arith _ qs rs hlin acc.near.2 (sliceDist_mod5 hK qs rs) }

theorem wordMatchOK_src (rt qt : Text) : WordMatchOK Gen.srcConsts rt qt :=
  wordMatchOK Gen.srcConsts costsOK_src thresholdOK_src rt qt

/-- the numeric hypotheses are met by the constants generated from the source -/
example : CostsOK Gen.srcConsts = true ∧ ThresholdOK Gen.srcConsts = true := ⟨costsOK_src, thresholdOK_src⟩

theorem wmInner_skip (c : WMCtx) (rs : Nat) (l : List Nat) (best : Option (WMatch × WMatch))
    (h : ∀ qs ∈ l, qs > c.q.len ∨ qs < c.q.stem ∨ rs > qs + 1 ∨ qs > rs + 1) : wmInner c rs l best = best := by
  rw [wmInner_eq_foldl, List.filter_eq_nil_iff.mpr fun qs hqs => by
    simpa using fun a : c.Adm rs qs => by have := h qs hqs; have := a.q_le; have := a.stem; have := a.near; omega]
  rfl

section exactPrefix
variable (K : Consts) (hK : CostsOK K = true) (rt : Text) (w : WordShape) (qt : Text) (v : WordShape)
  (hr : WordIn rt w) (hq : WordIn qt v) (hpre : wchars qt v = (wchars rt w).take v.len)

include hr hq hpre in
theorem prefix_len_le : v.len ≤ w.len := by
  have := congrArg List.length hpre
  rw [List.length_take, wchars_length hq, wchars_length hr] at this
  omega

include hK hr hq hpre in
theorem prefix_D_zero_iff (qs rs : Nat) (hqs : qs ≤ v.len) (hrs : rs ≤ w.len) :
    sliceDist K rt w qt v qs rs = 0 ↔ qs = rs := by
  rw [sliceDist_eq_zero_iff hK hr hq hqs hrs, hpre]
  exact ⟨fun h => h.1, fun e => ⟨e, fun i hi => by
    simp only [List.getD, List.getElem?_take, (by omega : i < v.len), if_true]⟩⟩

include hK hr hq hpre in
/-- The query word is a prefix of the record word: if the pair `(k, k)` of the two `k = |v|`-character prefixes is
    admitted it is what `word_match` returns, since every pair visited earlier has a longer record slice, so a
    positive distance. -/
theorem wordMatch_diag_of_prefix (hlen : lengthCheck K w v = true) (hjac : jaccardCheck K rt w qt v = true)
    (hstem : v.stem ≤ v.len) (hleft : wmLeftRaw w v - 1 < v.len) (hbrk : ¬ (v.fin = true ∧ v.len < w.stem)) :
    wordMatch K rt w qt v = some (newPair K w v v.len v.len 0) := by
  have hle := prefix_len_le rt w qt v hr hq hpre
  have hD := prefix_D_zero_iff K hK rt w qt v hr hq hpre
  have h0 := (hD v.len v.len (Nat.le_refl _) hle).mpr rfl
  rw [← h0]
  refine wordMatch_eq_some hK hr hq hlen hjac
    ⟨Nat.le_refl _, hle, hstem, by omega, hbrk, by omega,
      by rw [h0]; exact relTooBig_of_le K 0 0 (Nat.zero_le _) (Nat.le_refl _) (Nat.zero_le _)⟩
    fun rs qs a => ⟨by omega, fun hb => ?_⟩
  have := hD qs rs a.q_le a.r_le
  have := a.q_le
  omega

include hK hr hq hpre in
theorem wordMatch_exact_prefix_some (hfin : v.fin = false) (hs2 : v.stem ≤ v.len)
    (hlen : lengthCheck K w v = true) (hjac : jaccardCheck K rt w qt v = true) :
    wordMatch K rt w qt v = some (newPair K w v v.len v.len 0) :=
  wordMatch_diag_of_prefix K hK rt w qt v hr hq hpre hlen hjac hs2
    (by have := hq.len_pos; simp only [wmLeftRaw, hfin, Bool.false_eq_true, if_false]; omega) (by simp [hfin])

include hK hr hq hpre in
theorem wordMatch_exact_prefix (hfin : v.fin = false) :
    ∀ p, wordMatch K rt w qt v = some p → p = newPair K w v v.len v.len 0 := by
  intro p h
  obtain ⟨hlen, hjac, _, _, a, _⟩ := wordMatch_some hK hr hq h
  rw [wordMatch_exact_prefix_some K hK rt w qt v hr hq hpre hfin (Nat.le_trans a.stem a.q_le) hlen hjac] at h
  exact (Option.some.inj h).symm

end exactPrefix

end Lucid
