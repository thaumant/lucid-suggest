/-
  LucidProofs.Lemmas.Index — the trigram index (`store/trigram_index.rs`, `utils/trigrams.rs`; model:
  `LucidModel/Index.lean`).

  `IndexInv idx titles`: the posting list of every gram is exactly the ascending list of positions of the titles
  containing it. It holds for `Index.new` and is preserved by `Index.add` at the next position (what `Store::add`
  does), hence holds for every index built by adds (`buildIndex_inv`). Under it neither trap site fires (`addSafe`,
  `prepareSafe`), the counting loop returns, for every record, the number of distinct query grams occurring in that
  record (`IndexInv.countShared_eq`), and `Index.prepare` is a bounded top-k selection (`TopK`) of the positions with
  a positive count (`IndexInv.prepare_TopK`). What this needs of the grams: `gramLt` is a strict total order, so
  `collectGrams` returns a strictly ascending, hence duplicate-free list.
-/
import LucidModel.Index
import LucidProofs.Lemmas.Orders
import LucidProofs.Lemmas.TopK

namespace Lucid

/-! ## `gramLt` is a strict total order on grams -/

theorem gramLt_iff (a b : Gram) : gramLt a b = true ↔
    a.1 < b.1 ∨ (a.1 = b.1 ∧ (a.2.1 < b.2.1 ∨ (a.2.1 = b.2.1 ∧ a.2.2 < b.2.2))) := by
  simp [gramLt]

theorem gramLt_irrefl (a : Gram) : gramLt a a = false := by
  simp [gramLt]

/-- one level of a lexicographic order is transitive if the next level is -/
theorem lex_trans {a b c : Nat} {p q r : Prop} (h : p → q → r) :
    a < b ∨ (a = b ∧ p) → b < c ∨ (b = c ∧ q) → a < c ∨ (a = c ∧ r)
  | .inl h1, .inl h2 => .inl (Nat.lt_trans h1 h2)
  | .inl h1, .inr ⟨e, _⟩ => .inl (e ▸ h1)
  | .inr ⟨e, _⟩, .inl h2 => .inl (e ▸ h2)
  | .inr ⟨e1, h1⟩, .inr ⟨e2, h2⟩ => .inr ⟨e1.trans e2, h h1 h2⟩

theorem gramLt_trans {a b c : Gram} (h1 : gramLt a b = true) (h2 : gramLt b c = true) :
    gramLt a c = true := by
  rw [gramLt_iff] at *
  exact lex_trans (lex_trans Nat.lt_trans) h1 h2

theorem gramLt_asymm {a b : Gram} (h1 : gramLt a b = true) : gramLt b a = false := by
  cases h : gramLt b a with
  | false => rfl
  | true => have := gramLt_trans h1 h; rw [gramLt_irrefl] at this; cases this

theorem gramLt_of_not_lt_of_ne {a b : Gram} (h1 : gramLt a b = false) (h2 : a ≠ b) : gramLt b a = true := by
  rw [← Bool.not_eq_true, gramLt_iff] at h1
  rw [gramLt_iff]
  rcases Nat.lt_trichotomy a.1 b.1 with h | e1 | h
  · exact absurd (.inl h) h1
  · rcases Nat.lt_trichotomy a.2.1 b.2.1 with h | e2 | h
    · exact absurd (.inr ⟨e1, .inl h⟩) h1
    · rcases Nat.lt_trichotomy a.2.2 b.2.2 with h | e3 | h
      · exact absurd (.inr ⟨e1, .inr ⟨e2, h⟩⟩) h1
      · exact absurd (Prod.ext e1 (Prod.ext e2 e3)) h2
      · exact .inr ⟨e1.symm, .inr ⟨e2.symm, h⟩⟩
    · exact .inr ⟨e1.symm, .inl h⟩
  · exact .inl h

theorem gramLt_ne {a b : Gram} (h : gramLt a b = true) : a ≠ b := by
  intro e; subst e; rw [gramLt_irrefl] at h; cases h

def GramSorted (l : List Gram) : Prop := l.Pairwise (fun a b => gramLt a b = true)

theorem GramSorted.nodup {l : List Gram} (h : GramSorted l) : l.Nodup :=
  List.Pairwise.imp (fun hab => gramLt_ne hab) h

/-! ## `gramInsert`, `gramSet`, `collectGrams` -/

theorem mem_gramInsert {g x : Gram} {l : List Gram} : x ∈ gramInsert g l ↔ x = g ∨ x ∈ l := by
  induction l with
  | nil => simp [gramInsert]
  | cons h t ih =>
    unfold gramInsert
    split
    · simp
    · split
      · subst_vars; simp
      · rw [List.mem_cons, ih, List.mem_cons, or_left_comm]

theorem gramInsert_sorted {g : Gram} {l : List Gram} (hl : GramSorted l) : GramSorted (gramInsert g l) := by
  induction l with
  | nil => simp [gramInsert, GramSorted]
  | cons h t ih =>
    have hl' := List.pairwise_cons.mp hl
    unfold gramInsert
    split
    · rename_i hlt
      refine List.pairwise_cons.mpr ⟨?_, hl⟩
      intro x hx
      rcases List.mem_cons.mp hx with hx | hx
      · subst hx; exact hlt
      · exact gramLt_trans hlt (hl'.1 x hx)
    · split
      · exact hl
      · rename_i hnlt hne
        refine List.pairwise_cons.mpr ⟨?_, ih hl'.2⟩
        intro x hx
        rcases mem_gramInsert.mp hx with hx | hx
        · subst hx
          exact gramLt_of_not_lt_of_ne (by simpa using hnlt) hne
        · exact hl'.1 x hx

theorem gramSet_cons (g : Gram) (gs : List Gram) : gramSet (g :: gs) = gramInsert g (gramSet gs) := rfl

theorem mem_gramSet {x : Gram} {gs : List Gram} : x ∈ gramSet gs ↔ x ∈ gs := by
  induction gs with
  | nil => simp [gramSet]
  | cons g gs ih => rw [gramSet_cons, mem_gramInsert, ih, List.mem_cons]

theorem gramSet_sorted (gs : List Gram) : GramSorted (gramSet gs) := by
  induction gs with
  | nil => simp [gramSet, GramSorted]
  | cons g gs ih => rw [gramSet_cons]; exact gramInsert_sorted ih

theorem collectGrams_sorted (t : Text) : GramSorted (collectGrams t) := gramSet_sorted _

theorem collectGrams_nodup (t : Text) : (collectGrams t).Nodup := (collectGrams_sorted t).nodup

/-- the padded one-letter start of a non-empty word -/
theorem head_mem_trigrams (c : Nat) (l : List Nat) : (c, 0, 0) ∈ trigrams (c :: l) := by
  cases l with
  | nil => simp [trigrams]
  | cons b t => simp [trigrams]

theorem windows3_fst_mem (cs : List Nat) (g : Gram) (h : g ∈ windows3 cs) : g.1 ∈ cs := by
  fun_induction windows3 cs with
  | case1 a b c rest ih =>
    rcases List.mem_cons.mp h with rfl | h
    · exact List.mem_cons_self
    · exact List.mem_cons_of_mem _ (ih h)
  | case2 => cases h

theorem trigrams_fst_mem (cs : List Nat) (g : Gram) (h : g ∈ trigrams cs) : g.1 ∈ cs := by
  unfold trigrams at h
  rcases List.mem_append.mp h with h | h
  · match cs, h with
    | [a], h => simp at h; subst h; simp
    | a :: b :: _, h =>
      simp only [List.mem_cons, List.not_mem_nil, or_false] at h
      rcases h with h | h <;> subst h <;> simp
  · exact windows3_fst_mem cs g h

theorem mem_collectGrams {g : Gram} {t : Text} :
    g ∈ collectGrams t ↔ ∃ w ∈ t.words, g ∈ trigrams (slice t.chars w.lo w.hi) := by
  unfold collectGrams
  rw [mem_gramSet]
  simp only [List.mem_flatten, List.mem_map]
  constructor
  · rintro ⟨l, ⟨w, hw, rfl⟩, hg⟩; exact ⟨w, hw, hg⟩
  · rintro ⟨w, hw, hg⟩; exact ⟨_, ⟨w, hw, rfl⟩, hg⟩

theorem collectGrams_of_no_words {t : Text} (h : t.words = []) : collectGrams t = [] := by
  simp [collectGrams, h, gramSet]

/-! ## the dictionary -/

theorem dictGet_dictPush (g g' : Gram) (ix : Nat) (d : List (Gram × List Nat)) :
    (dictGet (dictPush g ix d) g').getD [] = (dictGet d g').getD [] ++ (if g' = g then [ix] else []) := by
  induction d with
  | nil =>
    by_cases h : g = g'
    · subst h; simp [dictGet, dictPush]
    · have h' : ¬ g' = g := fun e => h e.symm
      simp [dictGet, dictPush, h, h']
  | cons e rest ih =>
    obtain ⟨h, ixs⟩ := e
    unfold dictPush
    split
    · rename_i hg; subst hg
      by_cases h2 : h = g'
      · subst h2; simp [dictGet]
      · have h2' : ¬ g' = h := fun e => h2 e.symm
        simp [dictGet, h2, h2']
    · rename_i hg
      by_cases h2 : h = g'
      · subst h2
        have : ¬ h = g := hg
        simp [dictGet, this]
      · have e1 : dictGet ((h, ixs) :: dictPush g ix rest) g' = dictGet (dictPush g ix rest) g' := by
          simp [dictGet, h2]
        have e2 : dictGet ((h, ixs) :: rest) g' = dictGet rest g' := by
          simp [dictGet, h2]
        rw [e1, e2, ih]

theorem dictGet_foldl_push (gs : List Gram) (hnd : gs.Nodup) (ix : Nat) (d : List (Gram × List Nat)) (g' : Gram) :
    (dictGet (gs.foldl (fun d g => dictPush g ix d) d) g').getD []
      = (dictGet d g').getD [] ++ (if g' ∈ gs then [ix] else []) := by
  induction gs generalizing d with
  | nil => simp
  | cons g gs ih =>
    have hnd' := List.nodup_cons.mp hnd
    rw [List.foldl_cons, ih hnd'.2, dictGet_dictPush]
    by_cases h1 : g' = g
    · subst h1; simp [hnd'.1]
    · simp [h1]

theorem keys_dictPush (g : Gram) (ix : Nat) (d : List (Gram × List Nat)) :
    (dictPush g ix d).map (·.1) = d.map (·.1) ∨
      (g ∉ d.map (·.1) ∧ (dictPush g ix d).map (·.1) = d.map (·.1) ++ [g]) := by
  induction d with
  | nil => exact .inr ⟨List.not_mem_nil, rfl⟩
  | cons e rest ih =>
    obtain ⟨h, ixs⟩ := e
    unfold dictPush
    split
    · exact .inl rfl
    · exact ih.imp (congrArg (h :: ·)) fun ⟨h1, h2⟩ =>
        ⟨List.not_mem_cons_of_ne_of_not_mem (Ne.symm ‹_›) h1, congrArg (h :: ·) h2⟩

theorem keys_nodup_foldl_push (gs : List Gram) (ix : Nat) (d : List (Gram × List Nat))
    (hd : (d.map (·.1)).Nodup) : ((gs.foldl (fun d g => dictPush g ix d) d).map (·.1)).Nodup := by
  induction gs generalizing d with
  | nil => exact hd
  | cons g gs ih =>
    refine ih _ ?_
    rcases keys_dictPush g ix d with e | ⟨h, e⟩ <;> rw [e]
    · exact hd
    · exact List.perm_append_comm.nodup_iff.mpr (List.nodup_cons.mpr ⟨h, hd⟩)

/-! ## the invariant of an index built by adds -/

def recGrams (titles : List Text) (ix : Nat) : List Gram :=
  match titles[ix]? with
  | some t => collectGrams t
  | none => []

theorem recGrams_eq {titles : List Text} {ix : Nat} (h : ix < titles.length) :
    recGrams titles ix = collectGrams titles[ix] := by
  simp [recGrams, List.getElem?_eq_getElem h]

theorem recGrams_of_ge {titles : List Text} {ix : Nat} (h : titles.length ≤ ix) :
    recGrams titles ix = [] := by
  simp [recGrams, List.getElem?_eq_none h]

theorem recGrams_append_left {ts : List Text} {t : Text} {ix : Nat} (h : ix < ts.length) :
    recGrams (ts ++ [t]) ix = recGrams ts ix := by
  simp [recGrams, List.getElem?_append_left h]

theorem recGrams_append_last (ts : List Text) (t : Text) :
    recGrams (ts ++ [t]) ts.length = collectGrams t := by
  simp [recGrams]

/-- the index obtained by adding title k at position k, k = 0, 1, 2, … (what `Store::add` does) -/
def buildIndex (titles : List Text) : Index :=
  titles.zipIdx.foldl (fun idx (p : Text × Nat) => idx.add p.2 p.1) Index.new

/-- `idx` is the trigram index of `titles`: the counter equals the number of records, the posting list of every
    gram is the ascending, duplicate-free list of the positions of the titles that contain it, and the keys of
    the dictionary are distinct. -/
structure IndexInv (idx : Index) (titles : List Text) : Prop where
  len      : idx.len = titles.length
  postings : ∀ g, (dictGet idx.dict g).getD []
               = (List.range titles.length).filter (fun ix => decide (g ∈ recGrams titles ix))
  keys     : (idx.dict.map (·.1)).Nodup

theorem IndexInv.new : IndexInv Index.new [] :=
  ⟨rfl, fun g => by simp [Index.new, dictGet], by simp [Index.new]⟩

theorem IndexInv.add {idx : Index} {ts : List Text} (h : IndexInv idx ts) (t : Text) :
    IndexInv (idx.add ts.length t) (ts ++ [t]) := by
  refine ⟨?_, fun g => ?_, ?_⟩
  · simp [Index.add, h.len]
  · show (dictGet ((collectGrams t).foldl (fun d g => dictPush g ts.length d) idx.dict) g).getD [] = _
    rw [dictGet_foldl_push _ (collectGrams_nodup t), h.postings g]
    have hl : (ts ++ [t]).length = ts.length + 1 := by simp
    rw [hl, List.range_succ, List.filter_append]
    congr 1
    · apply List.filter_congr
      intro ix hix
      rw [recGrams_append_left (List.mem_range.mp hix)]
    · rw [List.filter_cons, List.filter_nil, recGrams_append_last]
      by_cases hg : g ∈ collectGrams t <;> simp [hg]
  · exact keys_nodup_foldl_push _ _ _ h.keys

theorem buildIndex_append (ts : List Text) (t : Text) :
    buildIndex (ts ++ [t]) = (buildIndex ts).add ts.length t := by
  simp [buildIndex, List.zipIdx_append, List.foldl_append]

/-- every index built by a sequence of adds (at positions 0, 1, 2, …) satisfies the invariant -/
theorem buildIndex_inv (titles : List Text) : IndexInv (buildIndex titles) titles := by
  rw [← titles.reverse_reverse]
  induction titles.reverse with
  | nil => exact IndexInv.new
  | cons t ts ih => rw [List.reverse_cons, buildIndex_append]; exact ih.add t

theorem IndexInv.postings_of_some {idx : Index} {titles : List Text} (h : IndexInv idx titles) {g : Gram}
    {ixs : List Nat} (hs : dictGet idx.dict g = some ixs) :
    ixs = (List.range titles.length).filter (fun ix => decide (g ∈ recGrams titles ix)) := by
  rw [← h.postings g, hs]; rfl

theorem IndexInv.postings_sorted {idx : Index} {titles : List Text} (h : IndexInv idx titles) (g : Gram) :
    ((dictGet idx.dict g).getD []).Pairwise (· < ·) := by
  rw [h.postings g]
  exact List.Pairwise.sublist List.filter_sublist List.pairwise_lt_range

/-! ## the trap sites never fire -/

theorem IndexInv.posting_lt {idx : Index} {titles : List Text} (h : IndexInv idx titles) {g : Gram} {ixs : List Nat}
    (hs : dictGet idx.dict g = some ixs) {ix : Nat} (hix : ix ∈ ixs) : ix < titles.length :=
  List.mem_range.mp (List.mem_filter.mp (h.postings_of_some hs ▸ hix)).1

/-- the `debug_assert!` of `TrigramIndex::add` (postings strictly increasing) holds when the next position is
    added -/
theorem IndexInv.addSafe {idx : Index} {ts : List Text} (h : IndexInv idx ts) (t : Text) :
    idx.addSafe ts.length t = true := by
  unfold Index.addSafe
  rw [List.all_eq_true]
  intro g _
  split
  · split
    · exact decide_eq_true (h.posting_lt ‹_› (List.mem_of_getLast? ‹_›))
    · rfl
  · rfl

/-- the `get_unchecked_mut(ix)` on the counter vector in `TrigramIndex::prepare` is in range: every posting
    is smaller than the counter `len` (trigram-counter part of C19) -/
theorem IndexInv.prepareSafe {idx : Index} {titles : List Text} (h : IndexInv idx titles) (q : Text) :
    idx.prepareSafe q = true := by
  unfold Index.prepareSafe
  rw [List.all_eq_true]
  intro g _
  split
  · rw [List.all_eq_true]
    exact fun ix hix => decide_eq_true (h.len ▸ h.posting_lt ‹_› hix)
  · rfl

/-! ## the counting loop -/

theorem length_bump (counts : List Nat) (ix : Nat) : (bump counts ix).length = counts.length := by
  simp [bump]

theorem getElem?_foldl_bump (l : List Nat) (counts : List Nat) (i : Nat) :
    (l.foldl bump counts)[i]? = counts[i]?.map (· + l.count i) := by
  induction l generalizing counts with
  | nil => rw [List.foldl_nil]; generalize counts[i]? = o; cases o <;> simp
  | cons a l ih =>
    rw [List.foldl_cons, ih, bump, List.getElem?_modify, List.count_cons]
    generalize counts[i]? = o
    cases o with
    | none => simp
    | some c =>
      by_cases hai : a = i
      · subst hai; simp; omega
      · simp [hai]

theorem countShared_eq_foldl (idx : Index) (qgrams : List Gram) :
    countShared idx qgrams
      = qgrams.foldl (fun counts g => ((dictGet idx.dict g).getD []).foldl bump counts)
          (List.replicate idx.len 0) := by
  unfold countShared
  congr 1
  funext counts g
  cases dictGet idx.dict g <;> rfl

theorem IndexInv.count_postings {idx : Index} {titles : List Text} (h : IndexInv idx titles) (g : Gram) (i : Nat) :
    ((dictGet idx.dict g).getD []).count i = if g ∈ recGrams titles i then 1 else 0 := by
  rw [h.postings g, (List.nodup_range.sublist List.filter_sublist).count]
  by_cases hi : i < titles.length
  · simp [hi]
  · simp [hi, recGrams_of_ge (Nat.le_of_not_lt hi)]

theorem IndexInv.getElem?_count_loop {idx : Index} {titles : List Text} (h : IndexInv idx titles)
    (qs : List Gram) (counts : List Nat) (i : Nat) :
    (qs.foldl (fun counts g => ((dictGet idx.dict g).getD []).foldl bump counts) counts)[i]?
      = counts[i]?.map (· + (qs.filter (fun g => decide (g ∈ recGrams titles i))).length) := by
  induction qs generalizing counts with
  | nil => rw [List.foldl_nil]; generalize counts[i]? = o; cases o <;> simp
  | cons g qs ih =>
    rw [List.foldl_cons, ih, getElem?_foldl_bump, h.count_postings, List.filter_cons]
    generalize counts[i]? = o
    cases o with
    | none => simp
    | some c =>
      by_cases hg : g ∈ recGrams titles i
      · simp [hg]; omega
      · simp [hg]

/-- number of distinct grams of the query `q` that occur in the record at position `ix` -/
def sharedCount (titles : List Text) (q : Text) (ix : Nat) : Nat :=
  ((collectGrams q).filter (fun g => decide (g ∈ recGrams titles ix))).length

theorem sharedCount_eq {titles : List Text} {ix : Nat} (h : ix < titles.length) (q : Text) :
    sharedCount titles q ix = ((collectGrams q).filter (fun g => decide (g ∈ collectGrams titles[ix]))).length := by
  unfold sharedCount; rw [recGrams_eq h]

theorem sharedCount_pos_iff {titles : List Text} {q : Text} {ix : Nat} :
    0 < sharedCount titles q ix ↔ ∃ g, g ∈ collectGrams q ∧ g ∈ recGrams titles ix := by
  unfold sharedCount
  simp only [List.length_pos_iff_exists_mem, List.mem_filter, decide_eq_true_eq]

/-- the title has a gram (trigram or one/two-letter word start) in common with the query -/
def sharesGram (q t : Text) : Bool := (collectGrams q).any (fun g => decide (g ∈ collectGrams t))

theorem sharesGram_iff {q t : Text} : sharesGram q t = true ↔ ∃ g, g ∈ collectGrams q ∧ g ∈ collectGrams t := by
  simp only [sharesGram, List.any_eq_true, decide_eq_true_eq]

theorem sharedCount_pos_iff_sharesGram {titles : List Text} {q : Text} {ix : Nat} (h : ix < titles.length) :
    0 < sharedCount titles q ix ↔ sharesGram q titles[ix] = true := by
  rw [sharedCount_pos_iff, sharesGram_iff, recGrams_eq h]

theorem sharedCount_of_no_words (titles : List Text) {q : Text} (h : q.words = []) (ix : Nat) :
    sharedCount titles q ix = 0 := by
  simp [sharedCount, collectGrams_of_no_words h]

theorem IndexInv.countShared_eq {idx : Index} {titles : List Text} (h : IndexInv idx titles) (q : Text) :
    countShared idx (collectGrams q) = (List.range titles.length).map (sharedCount titles q) := by
  rw [countShared_eq_foldl]
  apply List.ext_getElem?
  intro i
  rw [h.getElem?_count_loop, h.len]
  by_cases hi : i < titles.length
  · simp [hi, sharedCount]
  · simp [hi]

theorem IndexInv.positiveCounts_eq {idx : Index} {titles : List Text} (h : IndexInv idx titles) (q : Text) :
    positiveCounts idx q
      = ((List.range titles.length).map (fun ix => (ix, sharedCount titles q ix))).filter
          (fun p => decide (p.2 > 0)) := by
  unfold positiveCounts
  rw [h.countShared_eq]
  congr 1
  apply List.ext_getElem?
  intro i
  by_cases hi : i < titles.length
  · simp [hi]
  · simp [hi]

/-- positions of the records that share at least one gram with the query, ascending -/
def sharingPositions (titles : List Text) (q : Text) : List Nat :=
  (List.range titles.length).filter (fun ix => decide (0 < sharedCount titles q ix))

theorem mem_sharingPositions {titles : List Text} {q : Text} {ix : Nat} :
    ix ∈ sharingPositions titles q ↔ ix < titles.length ∧ 0 < sharedCount titles q ix := by
  simp [sharingPositions]

theorem IndexInv.positiveCounts_eq_map {idx : Index} {titles : List Text} (h : IndexInv idx titles) (q : Text) :
    positiveCounts idx q = (sharingPositions titles q).map (fun ix => (ix, sharedCount titles q ix)) := by
  rw [h.positiveCounts_eq, sharingPositions, List.filter_map]
  rfl

theorem IndexInv.positiveCounts_of_no_words {idx : Index} {titles : List Text} (h : IndexInv idx titles)
    {q : Text} (hq : q.words = []) : positiveCounts idx q = [] := by
  rw [h.positiveCounts_eq, List.filter_eq_nil_iff]
  intro p hp
  obtain ⟨ix, _, rfl⟩ := List.mem_map.mp hp
  simp [sharedCount_of_no_words titles hq]

/-! ## `Index.prepare` is a bounded top-k selection of the positive counts -/

theorem IndexInv.prepare_TopK_counts {idx : Index} {titles : List Text} (hI : IndexInv idx titles)
    (S : Sorter) (hS : SorterOK S) (K : Consts) (q : Text) (size : Nat) :
    ∃ sel, TopK countLe (size * K.prepFactor) (positiveCounts idx q) sel ∧
      idx.prepare S K q size = sel.map (·.1) := by
  by_cases hq : q.words = []
  · refine ⟨[], ?_, ?_⟩
    · rw [hI.positiveCounts_of_no_words hq]
      exact TopK.self_of_sorted .nil (Nat.zero_le _)
    · simp [Index.prepare, hq]
  · refine ⟨_, hS.topK countLe_preorder K.sortFactor (size * K.prepFactor) (positiveCounts idx q), ?_⟩
    have : ¬ q.words.length = 0 := fun h => hq (List.eq_nil_of_length_eq_zero h)
    simp [Index.prepare, this]

/-- the same at the level of positions: the candidate list is a bounded selection, by number of shared grams, of
    the positions of the records sharing a gram with the query. C18 is this, read through the generic facts about
    `TopK`. -/
theorem IndexInv.prepare_TopK {idx : Index} {titles : List Text} (hI : IndexInv idx titles)
    (S : Sorter) (hS : SorterOK S) (K : Consts) (q : Text) (size : Nat) :
    TopK (fun a b => decide (sharedCount titles q b ≤ sharedCount titles q a)) (size * K.prepFactor)
      (sharingPositions titles q) (idx.prepare S K q size) := by
  obtain ⟨sel, hT, he⟩ := hI.prepare_TopK_counts S hS K q size
  rw [hI.positiveCounts_eq_map] at hT
  have := hT.map (·.1) (le' := fun a b => decide (sharedCount titles q b ≤ sharedCount titles q a))
    (fun a ha b hb => by
      obtain ⟨_, _, rfl⟩ := List.mem_map.mp ha
      obtain ⟨_, _, rfl⟩ := List.mem_map.mp hb
      rfl)
  rwa [List.map_map, Function.comp_def, List.map_id', ← he] at this

/-! ## stores built by adds carry an index satisfying the invariant -/

/-- the index of the store is the trigram index of the titles of its records, and the next position is the
    number of records -/
def StoreIndexInv (st : Store) : Prop :=
  st.nextIx = st.records.length ∧ IndexInv st.index (st.records.map (·.title))

theorem StoreIndexInv.new (K : Consts) : StoreIndexInv (Store.new K) :=
  ⟨rfl, IndexInv.new⟩

theorem StoreIndexInv.add {st : Store} (h : StoreIndexInv st) (id : Nat) (title : Text) (rating : Nat) :
    StoreIndexInv (st.add id title rating) := by
  obtain ⟨h1, h2⟩ := h
  refine ⟨by simp [Store.add, h1], ?_⟩
  have := h2.add title
  simpa [Store.add, h1] using this

end Lucid
