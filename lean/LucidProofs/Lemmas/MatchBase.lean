/-
  LucidProofs.Lemmas.MatchBase — what every cluster about `word_match` / `text_match` needs of the smallest
  definitions of the model: word slices (`wchars`, `cword`, `WordIn`), the descending range of the two loops
  (`descRange`), `OffsetsOK`, the option-slot lists of `text_match` (`isSet`, `setAt`) and the consequences of `TextOK`.
-/
import LucidProofs.Lemmas.MatchFacts
import LucidProofs.Lemmas.ListFacts

namespace Lucid

theorem wchars_length {t : Text} {w : WordShape} (h : WordIn t w) : (wchars t w).length = w.len := by
  unfold wchars WordShape.len; exact slice_length _ _ _ h.2.1

theorem cword_len_of_wordIn (K : Consts) {t : Text} {w : WordShape} (h : WordIn t w) : (cword K t w).len = w.len := by
  simp only [CWord.len, cword]; exact wchars_length h

theorem WordIn.len_pos {t : Text} {w : WordShape} (h : WordIn t w) : 1 ≤ w.len := by
  have := h.1; unfold WordShape.len; omega

theorem wchars_ne_nil {t : Text} {w : WordShape} (h : WordIn t w) : wchars t w ≠ [] :=
  List.ne_nil_of_length_pos (wchars_length h ▸ h.len_pos)

theorem mem_descRange {left right x : Nat} : x ∈ descRange left right ↔ left ≤ x ∧ x < right := by
  unfold descRange
  rw [List.mem_reverse, List.mem_range'_1]
  omega

theorem pairwise_descRange (left right : Nat) : (descRange left right).Pairwise (· > ·) :=
  List.pairwise_reverse.mpr List.pairwise_lt_range'

theorem descRange_succ (left n : Nat) (h : left ≤ n) : descRange left (n + 1) = n :: descRange left n := by
  unfold descRange
  rw [Nat.succ_sub h, List.range'_concat, List.reverse_append, Nat.one_mul, Nat.add_sub_cancel' h]
  rfl

/-- the only fact about the two texts that the theory of the `text_match` scan uses -/
def OffsetsOK (t : Text) : Prop := ∀ i (h : i < t.words.length), (t.words[i]).offset = i

theorem TextOK.offsetsOK {t : Text} (h : TextOK t) : OffsetsOK t := h.offsets

theorem OffsetsOK.of_mem {t : Text} (h : OffsetsOK t) {w : WordShape} (hw : w ∈ t.words) :
    t.words[w.offset]? = some w := by
  obtain ⟨i, hi, e⟩ := List.mem_iff_getElem.mp hw
  have := h i hi
  rw [e] at this
  rw [this, List.getElem?_eq_getElem hi, e]

theorem OffsetsOK.lt_of_mem {t : Text} (h : OffsetsOK t) {w : WordShape} (hw : w ∈ t.words) :
    w.offset < t.words.length := by
  have := h.of_mem hw
  exact (List.getElem?_eq_some_iff.mp this).1

theorem OffsetsOK.offset_of_get {t : Text} (h : OffsetsOK t) {i : Nat} {w : WordShape}
    (hw : t.words[i]? = some w) : w.offset = i ∧ w ∈ t.words := by
  obtain ⟨hi, e⟩ := List.getElem?_eq_some_iff.mp hw
  exact ⟨e ▸ h i hi, e ▸ List.getElem_mem hi⟩

theorem isSet_iff {l : List (Option WMatch)} {i : Nat} : isSet l i = true ↔ ∃ m, l[i]? = some (some m) := by
  unfold isSet
  rw [List.getD_eq_getElem?_getD]
  cases h : l[i]? with
  | none => simp
  | some o => cases o <;> simp

theorem isSet_false_iff {l : List (Option WMatch)} {i : Nat} : isSet l i = false ↔ ∀ m, l[i]? ≠ some (some m) := by
  rw [← Bool.not_eq_true, isSet_iff]; simp

theorem isSet_false_of_get {l : List (Option WMatch)} {i : Nat} (h : l[i]? = some none) : isSet l i = false := by
  rw [isSet_false_iff]; intro m; rw [h]; simp

theorem isSet_lt {l : List (Option WMatch)} {i : Nat} (h : isSet l i = true) : i < l.length := by
  obtain ⟨m, hm⟩ := isSet_iff.mp h
  exact (List.getElem?_eq_some_iff.mp hm).1

theorem isSet_replicate (n i : Nat) : isSet (List.replicate n none) i = false := by
  rw [isSet_false_iff]; intro m h
  obtain ⟨_, e⟩ := List.getElem?_eq_some_iff.mp h
  simp at e

@[simp] theorem setAt_length (l : List (Option WMatch)) (i : Nat) (m : WMatch) : (setAt l i m).length = l.length := by
  simp [setAt]

theorem getElem?_setAt (l : List (Option WMatch)) (i j : Nat) (m : WMatch) :
    (setAt l i m)[j]? = if i = j then (if i < l.length then some (some m) else none) else l[j]? := by
  unfold setAt; rw [List.getElem?_set]

theorem getElem?_setAt_self {l : List (Option WMatch)} {i : Nat} (m : WMatch) (h : i < l.length) :
    (setAt l i m)[i]? = some (some m) := by
  rw [getElem?_setAt]; simp [h]

theorem getElem?_setAt_ne {l : List (Option WMatch)} {i j : Nat} (m : WMatch) (h : i ≠ j) :
    (setAt l i m)[j]? = l[j]? := by
  rw [getElem?_setAt]; simp [h]

theorem TextOK.wordIn {t : Text} (ht : TextOK t) {w : WordShape} (hw : w ∈ t.words) : WordIn t w :=
  ⟨(ht.bounds w hw).1, (ht.bounds w hw).2, ht.lens.2⟩

theorem TextOK.next {t : Text} (ht : TextOK t) {w w' : WordShape} (hw : w ∈ t.words)
    (hn : t.words[w.offset + 1]? = some w') : w' ∈ t.words ∧ w'.offset = w.offset + 1 ∧ w.hi ≤ w'.lo := by
  obtain ⟨e, hm⟩ := ht.offsetsOK.offset_of_get hn
  obtain ⟨h1, h2⟩ := List.getElem?_eq_some_iff.mp hn
  obtain ⟨_, h4⟩ := List.getElem?_eq_some_iff.mp (ht.offsetsOK.of_mem hw)
  have := ht.ordered w.offset h1
  rw [h4, h2] at this
  exact ⟨hm, e, this⟩

theorem TextOK.join_wordIn {t : Text} (ht : TextOK t) {w w' : WordShape} (hw : w ∈ t.words)
    (hn : t.words[w.offset + 1]? = some w') : WordIn t (w.join w') ∧ 1 ≤ (w.join w').stem := by
  obtain ⟨hm, _, hle⟩ := ht.next hw hn
  have b := ht.bounds w hw
  have b' := ht.bounds w' hm
  have s' := ht.stems w' hm
  refine ⟨⟨?_, ?_, ht.lens.2⟩, ?_⟩ <;> simp only [WordShape.join] <;> omega

/-- `ordered` ranges over `i + 1 < n`, for which there is no bounded-∀ instance; here it is restated over
    `i < n - 1`, so that `TextOK` of a concrete text is proved by `decide` -/
theorem textOK_iff (t : Text) : TextOK t ↔
    (t.source.length = t.chars.length ∧ t.classes.length = t.chars.length) ∧
    (∀ i (h : i < t.words.length), (t.words[i]).offset = i) ∧
    (∀ w ∈ t.words, w.lo < w.hi ∧ w.hi ≤ t.chars.length) ∧
    (∀ i (h : i < t.words.length - 1), (t.words[i]'(by omega)).hi ≤ (t.words[i + 1]'(by omega)).lo) ∧
    (∀ w ∈ t.words, 1 ≤ w.stem) :=
  ⟨fun h => ⟨h.lens, h.offsets, h.bounds, fun i hi => h.ordered i (by omega), h.stems⟩,
   fun ⟨h1, h2, h3, h4, h5⟩ => ⟨h1, h2, h3, fun i hi => h4 i (by omega), h5⟩⟩

instance (t : Text) : Decidable (TextOK t) := decidable_of_iff _ (textOK_iff t).symm

theorem offsets1 {t : Text} (ht : TextOK t) {a : WordShape} (h : t.words = [a]) : a.offset = 0 :=
  (ht.offsetsOK.offset_of_get (i := 0) (by rw [h]; rfl)).1

theorem offsets2 {t : Text} (ht : TextOK t) {a b : WordShape} (h : t.words = [a, b]) : a.offset = 0 ∧ b.offset = 1 :=
  ⟨(ht.offsetsOK.offset_of_get (i := 0) (by rw [h]; rfl)).1, (ht.offsetsOK.offset_of_get (i := 1) (by rw [h]; rfl)).1⟩

theorem offsets3 {t : Text} (ht : TextOK t) {a b c : WordShape} (h : t.words = [a, b, c]) :
    a.offset = 0 ∧ b.offset = 1 ∧ c.offset = 2 :=
  ⟨(ht.offsetsOK.offset_of_get (i := 0) (by rw [h]; rfl)).1, (ht.offsetsOK.offset_of_get (i := 1) (by rw [h]; rfl)).1,
    (ht.offsetsOK.offset_of_get (i := 2) (by rw [h]; rfl)).1⟩

end Lucid
