/-
  LucidProofs.Lemmas.TopK — what follows from the relational specification `TopK le k xs ys` of the bounded
  selection alone, for any comparator. When `le` has no ties on the input the selection is unique (`TopK.unique`),
  from which "exact list", "prefix of the list for a larger limit" and "independent of the input order" all follow.
-/
import LucidProofs.Lemmas.ListFacts
import LucidProofs.Lemmas.Sorter

namespace Lucid
variable {α β : Type} {le : α → α → Bool} {k : Nat} {xs xs' ys ys' : List α}

theorem SorterOK.topK {S : Sorter} (hS : SorterOK S) (P : Preorder' le) (factor : Nat)
    (limit : Nat) (xs : List α) : TopK le limit xs (limitSort (S.sort le) factor limit xs) :=
  limitSort_TopK P (hS le P) factor limit xs

namespace TopK

theorem mem_of_mem (h : TopK le k xs ys) {y : α} (hy : y ∈ ys) : y ∈ xs :=
  let ⟨_, _, _, hp, _⟩ := h; hp.subset (List.mem_append_left _ hy)

theorem length_le (h : TopK le k xs ys) : ys.length ≤ k := h.2.1 ▸ Nat.min_le_left ..

theorem length_of_le (h : TopK le k xs ys) (hk : k ≤ xs.length) : ys.length = k := h.2.1 ▸ Nat.min_eq_left hk

theorem perm_of_length_le (h : TopK le k xs ys) (hk : xs.length ≤ k) : ys.Perm xs := by
  obtain ⟨_, hlen, rest, hp, _⟩ := h
  have h1 := hp.length_eq
  rw [List.length_append, hlen, Nat.min_eq_right hk] at h1
  obtain rfl : rest = [] := List.eq_nil_of_length_eq_zero (by omega)
  simpa using hp

theorem le_of_not_mem (h : TopK le k xs ys) {x y : α} (hx : x ∈ xs) (hn : x ∉ ys) (hy : y ∈ ys) :
    le y x = true := by
  obtain ⟨_, _, rest, hp, hle⟩ := h
  exact hle y hy x ((List.mem_append.mp (hp.symm.subset hx)).resolve_left hn)

theorem map_nodup (f : α → β) (h : TopK le k xs ys) (hx : (xs.map f).Nodup) : (ys.map f).Nodup := by
  obtain ⟨_, _, rest, hp, _⟩ := h
  have h1 := (hp.map f).nodup_iff.mpr hx
  rw [List.map_append] at h1
  exact (List.nodup_append.mp h1).1

theorem of_perm (h : TopK le k xs ys) (hp : xs.Perm xs') : TopK le k xs' ys :=
  let ⟨h1, h2, rest, h3, h4⟩ := h; ⟨h1, hp.length_eq ▸ h2, rest, h3.trans hp, h4⟩

theorem map (f : α → β) {le' : β → β → Bool} (hle : ∀ a ∈ xs, ∀ b ∈ xs, le' (f a) (f b) = le a b)
    (h : TopK le k xs ys) : TopK le' k (xs.map f) (ys.map f) := by
  obtain ⟨h1, h2, rest, h3, h4⟩ := h
  have my : ∀ {y}, y ∈ ys → y ∈ xs := fun hy => h3.subset (List.mem_append_left _ hy)
  have mr : ∀ {r}, r ∈ rest → r ∈ xs := fun hr => h3.subset (List.mem_append_right _ hr)
  refine ⟨?_, by simp [h2], rest.map f, List.map_append ▸ h3.map f, ?_⟩
  · rw [List.pairwise_map]
    exact h1.imp_of_mem (fun {a b} ha hb hab => by rw [hle a (my ha) b (my hb)]; exact hab)
  · simp only [List.mem_map, forall_exists_index, and_imp, forall_apply_eq_imp_iff₂]
    exact fun y hy r hr => by rw [hle y (my hy) r (mr hr)]; exact h4 y hy r hr

theorem take (h : TopK le k xs ys) {k' : Nat} (hk : k' ≤ k) : TopK le k' xs (ys.take k') := by
  obtain ⟨h1, h2, rest, h3, h4⟩ := h
  refine ⟨h1.sublist (List.take_sublist _ _), ?_, ys.drop k' ++ rest, ?_, ?_⟩
  · rw [List.length_take, h2, ← Nat.min_assoc, Nat.min_eq_left hk]
  · rw [← List.append_assoc, List.take_append_drop]; exact h3
  · intro y hy r hr
    rcases List.mem_append.mp hr with hr | hr
    · exact h1.rel_of_mem_take_of_mem_drop hy hr
    · exact h4 y (List.mem_of_mem_take hy) r hr

theorem sorted_take (hs : xs.Pairwise (fun a b => le a b = true)) (k : Nat) : TopK le k xs (xs.take k) :=
  ⟨hs.sublist (List.take_sublist _ _), List.length_take, xs.drop k, by rw [List.take_append_drop],
    fun _ hy _ hr => hs.rel_of_mem_take_of_mem_drop hy hr⟩

theorem self_of_sorted (hs : xs.Pairwise (fun a b => le a b = true)) (hk : xs.length ≤ k) :
    TopK le k xs xs :=
  ⟨hs, by omega, [], by simp, by simp⟩

abbrev NoTies (le : α → α → Bool) (xs : List α) : Prop :=
  ∀ a ∈ xs, ∀ b ∈ xs, le a b = true → le b a = true → a = b

/-- completed by their sorted remainders, two solutions are sorted arrangements of the input, of which there is one -/
theorem unique (P : Preorder' le) (anti : NoTies le xs) (h : TopK le k xs ys) (h' : TopK le k xs ys') :
    ys = ys' := by
  obtain ⟨hs, hl, rest, hp, hc⟩ := h
  obtain ⟨hs', hl', rest', hp', hc'⟩ := h'
  have srt : ∀ l : List α, (l.mergeSort le).Pairwise (fun a b => le a b = true) :=
    List.pairwise_mergeSort P.trans (fun a b => by simpa using P.total a b)
  have p1 := ((List.mergeSort_perm rest le).append_left ys).trans hp
  have p2 := ((List.mergeSort_perm rest' le).append_left ys').trans hp'
  have key : ys ++ rest.mergeSort le = ys' ++ rest'.mergeSort le :=
    (p1.trans p2.symm).eq_of_pairwise (le := fun a b => le a b = true)
      (fun a b ha hb => anti a (p1.subset ha) b (p2.subset hb))
      (List.pairwise_append.mpr ⟨hs, srt rest, fun a ha b hb => hc a ha b ((List.mergeSort_perm ..).subset hb)⟩)
      (List.pairwise_append.mpr ⟨hs', srt rest', fun a ha b hb => hc' a ha b ((List.mergeSort_perm ..).subset hb)⟩)
  exact (List.append_inj key (by omega)).1

theorem eq_take (P : Preorder' le) (anti : NoTies le xs) (h : TopK le k xs ys) {zs : List α}
    (hz : zs.Pairwise (fun a b => le a b = true)) (hp : zs.Perm xs) : ys = zs.take k :=
  unique P anti h ((sorted_take hz k).of_perm hp)

theorem eq_take_of_le (P : Preorder' le) (anti : NoTies le xs) (h : TopK le k xs ys) {k' : Nat}
    (h' : TopK le k' xs ys') (hk : k ≤ k') : ys = ys'.take k :=
  unique P anti h (h'.take hk)

theorem eq_of_perm (P : Preorder' le) (anti : NoTies le xs) (h : TopK le k xs ys) (h' : TopK le k xs' ys')
    (hp : xs.Perm xs') : ys = ys' :=
  unique P anti h (h'.of_perm hp.symm)

end TopK

theorem TopK.noTies_of_key {γ : Type} (key : α → γ) (hk : ∀ a b, le a b = true → le b a = true → key a = key b)
    (hinj : xs.Pairwise (fun a b => key a ≠ key b)) : TopK.NoTies le xs :=
  fun a ha b hb h1 h2 => inj_of_pairwise_ne key xs hinj a ha b hb (hk a b h1 h2)

/-- non-vacuity of `SorterOK` -/
def mergeSorter : Sorter := ⟨fun le l => l.mergeSort le⟩

theorem mergeSorter_ok : SorterOK mergeSorter :=
  fun le P => ⟨fun l => List.mergeSort_perm l le,
    fun l => List.pairwise_mergeSort P.trans (fun a b => by simpa using P.total a b) l⟩

end Lucid
