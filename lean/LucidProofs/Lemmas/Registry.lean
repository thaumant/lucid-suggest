/-
  LucidProofs.Lemmas.Registry — the two id-keyed maps of `lib.rs` (model: `Registry`), the per-id
  projection of an operation sequence onto a stand-alone store, the simulation lemma behind C20, and
  the NUL framing of the WASM bridge.
-/
import LucidModel.Registry
import LucidProofs.Lemmas.Store

namespace Lucid

/-! ### association-list map -/
section am
variable {ν : Type}

theorem amGet_nil (k : Nat) : amGet ([] : List (Nat × ν)) k = none := rfl

theorem amGet_cons (e : Nat × ν) (m : List (Nat × ν)) (k : Nat) :
    amGet (e :: m) k = if e.1 = k then some e.2 else amGet m k := by
  unfold amGet
  by_cases h : e.1 = k <;> simp [h]

theorem amGet_amSet (m : List (Nat × ν)) (k : Nat) (v : ν) (j : Nat) :
    amGet (amSet m k v) j = if k = j then some v else amGet m j := by
  induction m with
  | nil => simp [amSet, amGet_cons, amGet_nil]
  | cons e m ih =>
    unfold amSet
    split <;> simp only [amGet_cons, ih] <;> grind

theorem amGet_amDel (m : List (Nat × ν)) (k j : Nat) :
    amGet (amDel m k) j = if k = j then none else amGet m j := by
  induction m with
  | nil => simp [amDel, amGet_nil]
  | cons e m ih =>
    simp only [amDel, List.filter_cons] at ih ⊢
    split <;> simp only [amGet_cons, ih] <;> grind

end am

/-! ### registry runs, validity, the id an operation addresses -/

def RegOp.target : RegOp → Nat
  | .create id _ => id
  | .destroy id => id
  | .highlightWith id _ _ => id
  | .addRecord id _ _ _ => id
  | .setLimit id _ => id
  | .runSearch id _ => id
  | .clearStore id => id

def Registry.run (S : Sorter) (P : Prog) (envs : Nat → Env) (g : Registry) (ops : List RegOp) : Registry :=
  ops.foldl (Registry.step S P envs) g

/-- every operation of the sequence is a valid call at the moment it is executed -/
def Registry.allValid (S : Sorter) (P : Prog) (envs : Nat → Env) : Registry → List RegOp → Bool
  | _, [] => true
  | g, op :: ops => op.valid g && Registry.allValid S P envs (g.step S P envs op) ops

theorem allValid_append (S : Sorter) (P : Prog) (envs : Nat → Env) (g : Registry) (a b : List RegOp) :
    Registry.allValid S P envs g (a ++ b) =
      (Registry.allValid S P envs g a && Registry.allValid S P envs (g.run S P envs a) b) := by
  induction a generalizing g with
  | nil => simp [Registry.allValid, Registry.run]
  | cons op a ih => simp [Registry.allValid, Registry.run, ih, Bool.and_assoc]

theorem run_append (S : Sorter) (P : Prog) (envs : Nat → Env) (g : Registry) (a b : List RegOp) :
    g.run S P envs (a ++ b) = (g.run S P envs a).run S P envs b := by
  simp [Registry.run, List.foldl_append]

theorem run_preserves {β : Type} (S : Sorter) (P : Prog) (envs : Nat → Env) (f : Registry → β) (ops : List RegOp)
    (h : ∀ op ∈ ops, ∀ g, f (g.step S P envs op) = f g) (g : Registry) : f (g.run S P envs ops) = f g := by
  induction ops generalizing g with
  | nil => rfl
  | cons op ops ih =>
    exact (ih (fun o ho => h o (List.mem_cons_of_mem _ ho)) _).trans (h op List.mem_cons_self g)

theorem step_other (S : Sorter) (P : Prog) (envs : Nat → Env) (g : Registry) (op : RegOp) (j : Nat)
    (hj : op.target ≠ j) :
    amGet (g.step S P envs op).stores j = amGet g.stores j ∧
    amGet (g.step S P envs op).results j = amGet g.results j := by
  unfold Registry.step
  split
  · exact ⟨rfl, rfl⟩
  · cases op <;> simp only [RegOp.target] at hj <;> simp only <;> (try split) <;>
      simp [amGet_amSet, amGet_amDel, hj]

theorem step_create (S : Sorter) (P : Prog) (envs : Nat → Env) (g : Registry) (id lang : Nat)
    (hv : (RegOp.create id lang).valid g = true) :
    amGet (g.step S P envs (.create id lang)).stores id = some (lang, Store.new P.K) ∧
    amGet (g.step S P envs (.create id lang)).results id = some [] := by
  simp [Registry.step, hv, amGet_amSet]

/-! ### the per-id projection -/

/-- one step of the projection onto id `id`: `none` = not live, `some (lang, ops)` = language the store was created
    with and the store operations addressed to it since its last `create` (texts tokenised for that language) -/
def projStep (P : Prog) (envs : Nat → Env) (id : Nat) (p : Option (Nat × List StoreOp)) (op : RegOp) :
    Option (Nat × List StoreOp) :=
  if op.target ≠ id then p else
  match op with
  | .create _ lang => some (lang, [])
  | .destroy _ => none
  | .highlightWith _ l r => p.map (fun x => (x.1, x.2 ++ [StoreOp.setDividers l r]))
  | .addRecord _ recId title rating =>
    p.map (fun x => (x.1, x.2 ++ [StoreOp.add recId (tokenizeRecord P (envs x.1) title) rating]))
  | .setLimit _ n => p.map (fun x => (x.1, x.2 ++ [StoreOp.setLimit n]))
  | .runSearch _ query => p.map (fun x => (x.1, x.2 ++ [StoreOp.search (tokenizeQuery P (envs x.1) query)]))
  | .clearStore _ => p.map (fun x => (x.1, x.2 ++ [StoreOp.clear]))

def projFrom (P : Prog) (envs : Nat → Env) (id : Nat) (p : Option (Nat × List StoreOp)) (ops : List RegOp) :
    Option (Nat × List StoreOp) := ops.foldl (projStep P envs id) p

/-- the sub-list of operations addressing `id` since its last `create` (or `none` if `id` is not live) -/
def proj (P : Prog) (envs : Nat → Env) (id : Nat) (ops : List RegOp) : Option (Nat × List StoreOp) :=
  projFrom P envs id none ops

theorem proj_snoc_search (P : Prog) (envs : Nat → Env) (id : Nat) (ops : List RegOp) (query : List Nat) (lang : Nat)
    (sops : List StoreOp) (hp : proj P envs id ops = some (lang, sops)) :
    proj P envs id (ops ++ [RegOp.runSearch id query]) =
      some (lang, sops ++ [StoreOp.search (tokenizeQuery P (envs lang) query)]) := by
  unfold proj projFrom at hp ⊢
  rw [List.foldl_append, hp]
  simp [projStep, RegOp.target]

/-- the stand-alone store: the projected operations run on `Store::new()` -/
def runOne (S : Sorter) (P : Prog) (sops : List StoreOp) : Store := Store.run S P.K P.order (Store.new P.K) sops

/-- store and "what the last search returned" side by side -/
def resStep (S : Sorter) (K : Consts) (order : List ScoreType) (sr : Store × List Result) (op : StoreOp) :
    Store × List Result :=
  (sr.1.apply S K order op, match op with | .search q => sr.1.search S K order q | _ => sr.2)

/-- the hits of the last `search` in `sops`, each computed by the stand-alone store at that moment; `[]` if none -/
def lastResults (S : Sorter) (P : Prog) (sops : List StoreOp) : List Result :=
  (sops.foldl (resStep S P.K P.order) (Store.new P.K, [])).2

theorem resStep_foldl_fst (S : Sorter) (K : Consts) (order : List ScoreType) (sr : Store × List Result)
    (sops : List StoreOp) : (sops.foldl (resStep S K order) sr).1 = Store.run S K order sr.1 sops := by
  induction sops generalizing sr with
  | nil => rfl
  | cons op sops ih => simp only [List.foldl_cons, ih]; rfl

theorem runOne_snoc (S : Sorter) (P : Prog) (sops : List StoreOp) (op : StoreOp) :
    runOne S P (sops ++ [op]) = (runOne S P sops).apply S P.K P.order op := by
  simp [runOne, Store.run, List.foldl_append]

theorem lastResults_snoc (S : Sorter) (P : Prog) (sops : List StoreOp) (op : StoreOp) :
    lastResults S P (sops ++ [op]) =
      match op with
      | .search q => (runOne S P sops).search S P.K P.order q
      | _ => lastResults S P sops := by
  simp only [lastResults, List.foldl_append, List.foldl_cons, List.foldl_nil, resStep, runOne]
  rw [resStep_foldl_fst]

/-- simulation relation between the registry and the projection for one id -/
def Sim (S : Sorter) (P : Prog) (g : Registry) (id : Nat) (p : Option (Nat × List StoreOp)) : Prop :=
  amGet g.stores id = p.map (fun x => (x.1, runOne S P x.2)) ∧
  amGet g.results id = p.map (fun x => lastResults S P x.2)

theorem Sim_empty (S : Sorter) (P : Prog) (id : Nat) : Sim S P Registry.empty id none := ⟨rfl, rfl⟩

theorem Sim_step (S : Sorter) (P : Prog) (envs : Nat → Env) (g : Registry) (id : Nat)
    (p : Option (Nat × List StoreOp)) (h : Sim S P g id p) (op : RegOp) (hv : op.valid g = true) :
    Sim S P (g.step S P envs op) id (projStep P envs id p op) := by
  by_cases ht : op.target = id
  · obtain ⟨hs, hr⟩ := h
    unfold Sim Registry.step projStep
    simp only [hv, Bool.not_true, Bool.false_eq_true, if_false, ht, ne_eq, not_true_eq_false]
    cases op <;> simp only [RegOp.target] at ht <;> subst ht <;> simp only
    · exact ⟨by rw [amGet_amSet, if_pos rfl]; rfl, by rw [amGet_amSet, if_pos rfl]; rfl⟩
    · exact ⟨by rw [amGet_amDel, if_pos rfl]; rfl, by rw [amGet_amDel, if_pos rfl]; rfl⟩
    -- the five calls on an existing store: one more store operation (`runOne_snoc`, `lastResults_snoc`)
    all_goals
      simp only [RegOp.valid, Bool.and_eq_true] at hv
      cases p with
      | none => simp [hs] at hv
      | some x =>
        simp only [Option.map_some] at hs hr ⊢
        simp only [hs, amGet_amSet, if_pos, runOne_snoc, lastResults_snoc, hr]
        exact ⟨rfl, by trivial⟩
  · have h' := step_other S P envs g op id ht
    unfold Sim at h ⊢
    rw [h'.1, h'.2]
    simpa [projStep, ht] using h

theorem Sim_run (S : Sorter) (P : Prog) (envs : Nat → Env) (id : Nat) (ops : List RegOp) :
    ∀ (g : Registry) (p : Option (Nat × List StoreOp)), Sim S P g id p →
      Registry.allValid S P envs g ops = true →
      Sim S P (g.run S P envs ops) id (projFrom P envs id p ops) := by
  induction ops with
  | nil => intro g p h _; exact h
  | cons op ops ih =>
    intro g p h hv
    simp only [Registry.allValid, Bool.and_eq_true] at hv
    exact ih _ _ (Sim_step S P envs g id p h op hv.1) hv.2

/-! ### NUL framing of `get_result_titles` -/

theorem splitNul_ne_nil (l : List Nat) : splitNul l ≠ [] := by
  cases l with
  | nil => simp [splitNul]
  | cons c cs =>
    simp only [splitNul]
    split
    · simp
    · split <;> simp

theorem splitNul_piece (t rest : List Nat) (ht : 0 ∉ t) : splitNul (t ++ 0 :: rest) = t :: splitNul rest := by
  induction t with
  | nil =>
    simp only [List.nil_append, splitNul]
    split
    · rename_i h; exact absurd h (splitNul_ne_nil rest)
    · rename_i h; simp [h]
  | cons c t ih =>
    have hc : c ≠ 0 := fun e => ht (by simp [e])
    have ht' : 0 ∉ t := fun e => ht (by simp [e])
    simp only [List.cons_append, splitNul, ih ht', hc, if_false]

theorem splitNul_frames (ts : List (List Nat)) (h : ∀ t ∈ ts, 0 ∉ t) :
    splitNul ((ts.map (fun t => t ++ [0])).flatten) = ts ++ [[]] := by
  induction ts with
  | nil => rfl
  | cons t ts ih =>
    simp only [List.map_cons, List.flatten_cons, List.append_assoc, List.singleton_append]
    rw [splitNul_piece t _ (h t (by simp)), ih (fun t' ht' => h t' (by simp [ht']))]
    rfl

end Lucid
