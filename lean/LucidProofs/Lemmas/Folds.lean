/-
  LucidProofs.Lemmas.Folds — one induction for every loop of the distance code: a left fold over a list whose
  `k`-th element is `e k`, with an invariant indexed by the number of steps done. The checked form (`foldlO`, every
  step may fail) says in addition that no step fails and the result is the unchecked fold; the unchecked form is the
  case of steps that cannot fail.
-/
import LucidModel.DamlevChecked

namespace Lucid
namespace DL

theorem foldlO_ind {σ α : Type} (f : σ → α → Option σ) (g : σ → α → σ) (e : Nat → α) (l : List α) :
    ∀ (P : Nat → σ → Prop) (n : Nat) (s : σ), l.length = n → (∀ k (hk : k < l.length), l[k] = e k) → P 0 s →
      (∀ k, k < n → ∀ s, P k s → f s (e k) = some (g s (e k)) ∧ P (k+1) (g s (e k))) →
      foldlO f s l = some (l.foldl g s) ∧ P n (l.foldl g s) := by
  induction l generalizing e with
  | nil => intro P n s hn _ h0 _; subst hn; exact ⟨rfl, h0⟩
  | cons x xs ih =>
    intro P n s hn he h0 hs
    subst hn
    have ex : x = e 0 := he 0 (by simp)
    obtain ⟨e0, hp⟩ := hs 0 (by simp) s h0
    have := ih (fun k => e (k+1)) (fun k => P (k+1)) xs.length (g s x) rfl
      (fun k hk => by have := he (k+1) (by simp; omega); rwa [List.getElem_cons_succ] at this) (ex ▸ hp)
      (fun k hk s' h' => hs (k+1) (by simp; omega) s' h')
    simp only [foldlO, ex, e0, List.foldl_cons, List.length_cons]
    exact ex ▸ this

theorem foldl_ind {σ α : Type} (g : σ → α → σ) (e : Nat → α) (l : List α) (P : Nat → σ → Prop) (n : Nat) (s : σ)
    (hn : l.length = n) (he : ∀ k (hk : k < l.length), l[k] = e k) (h0 : P 0 s)
    (hs : ∀ k, k < n → ∀ s, P k s → P (k+1) (g s (e k))) : P n (l.foldl g s) :=
  (foldlO_ind (fun s x => some (g s x)) g e l P n s hn he h0 (fun k hk s h => ⟨rfl, hs k hk s h⟩)).2

theorem range_get (n k : Nat) (hk : k < (List.range n).length) : (List.range n)[k] = k := by simp
theorem range1_get (n k : Nat) (hk : k < (List.range' 1 n).length) : (List.range' 1 n)[k] = k + 1 := by
  simp; omega
theorem zipIdx_get (c : List Nat) (k : Nat) (hk : k < c.zipIdx.length) : c.zipIdx[k] = (c.getD k 0, k) := by
  have : k < c.length := by simpa using hk
  simp [List.getD, this]

end DL
end Lucid
