/-
  LucidProofs.Lemmas.Facts — named hypotheses about the oracles and the generated tables.
  * `UnicodeFacts` is checked against Rust's `std` on all scalars by the harness on every run.
  * `TablesOK` is decided by the kernel on the generated tables (`tablesOK_none` … `tablesOK_ru`).
  * `StemBounded` is a hypothesis for the six Snowball languages (third-party code; `none` has no stemmer and
    needs nothing); it speaks about words free of reduce-table keys only (the words that can reach the stemmer).
  * `FoldClosed` is decided by the kernel on the generated reduce tables; `LowerKeyFree` is an oracle/table fact
    checked by the harness.
  * `CostsOK` (edit costs), `AsciiFacts`, `CaseClosedOn`, `SepLowerOn` (oracle facts of the C11 re-casing theorems)
    and the two conditions on a reduce entry, `mapOK` and `noShrink`, are defined here as well.
-/
import LucidModel.Registry
import LucidModel.Gen.Consts
import LucidModel.Gen.Langs

namespace Lucid

/-- the pattern `[Whitespace, Control, Punctuation]` that `tokenize_query`/`tokenize_record` split on -/
def isSepChar (U : Unicode) (K : Consts) (c : Nat) : Bool :=
  U.isWhitespace c || U.isControl c || K.punctuation.contains c

structure UnicodeFacts (U : Unicode) (K : Consts) : Prop where
  sep_not_alnum : ∀ c, isSepChar U K c = true → U.isAlnum c = false
  lower_alnum   : ∀ c, U.isAlnum (U.lower1 c) = U.isAlnum c
  lower_alpha   : ∀ c, U.isAlphabetic (U.lower1 c) = U.isAlphabetic c
  lower_sep     : ∀ c, isSepChar U K c = false → isSepChar U K (U.lower1 c) = false
  lower_idem    : ∀ c, U.lower1 (U.lower1 c) = U.lower1 c
  lower_upper   : ∀ c, U.isUppercase (U.lower1 c) = true → U.lower1 c = c
  nul_control   : U.isControl 0 = true

theorem sepLower_of_alnum {U : Unicode} {K : Consts} (hs : ∀ c, isSepChar U K c = true → U.isAlnum c = false)
    (c : Nat) (hl : U.isAlnum (U.lower1 c) = U.isAlnum c) (h : U.lower1 c = c ∨ U.isAlnum c = true) :
    isSepChar U K (U.lower1 c) = isSepChar U K c := by
  rcases h with e | ha
  · rw [e]
  · have ns : ∀ d, U.isAlnum d = true → isSepChar U K d = false := fun d hd =>
      Bool.eq_false_iff.2 fun h' => by rw [hs d h'] at hd; cases hd
    rw [ns c ha, ns _ (hl.trans ha)]

/-- keys fit the window of `Normalize` (`NORM_MAX_PATTERN_LEN = 2`), replacements are non-empty -/
def mapOK (m : List (List Nat × List Nat)) : Bool :=
  m.all (fun e => (e.1.length == 1 || e.1.length == 2) && decide (0 < e.2.length))

/-- the NUL padding loop of `Lang::unicode_reduce` computes `norm_chunk.len() - word_chunk.len()` in `usize` -/
def noShrink (m : List (List Nat × List Nat)) : Bool := m.all (fun e => decide (e.1.length ≤ e.2.length))

def TablesOK (T : LangTables) : Bool := mapOK T.compose && mapOK T.reduce && noShrink T.reduce

theorem tablesOK_none : TablesOK Gen.lang_none = true := by decide +kernel
theorem tablesOK_de : TablesOK Gen.lang_de = true := by decide +kernel
theorem tablesOK_en : TablesOK Gen.lang_en = true := by decide +kernel
theorem tablesOK_es : TablesOK Gen.lang_es = true := by decide +kernel
theorem tablesOK_fr : TablesOK Gen.lang_fr = true := by decide +kernel
theorem tablesOK_pt : TablesOK Gen.lang_pt = true := by decide +kernel
theorem tablesOK_ru : TablesOK Gen.lang_ru = true := by decide +kernel

theorem forall_srcLangs {C : LangTables → Prop} (h0 : C Gen.lang_none) (h1 : C Gen.lang_de) (h2 : C Gen.lang_en)
    (h3 : C Gen.lang_es) (h4 : C Gen.lang_fr) (h5 : C Gen.lang_pt) (h6 : C Gen.lang_ru) {name : String}
    {T : LangTables} (h : (name, T) ∈ Gen.srcLangs) : C T := by
  simp only [Gen.srcLangs, List.mem_cons, Prod.mk.injEq, List.not_mem_nil, or_false] at h
  rcases h with ⟨_, rfl⟩ | ⟨_, rfl⟩ | ⟨_, rfl⟩ | ⟨_, rfl⟩ | ⟨_, rfl⟩ | ⟨_, rfl⟩ | ⟨_, rfl⟩ <;> assumption

theorem tablesOK_of_srcLangs {name : String} {T : LangTables} (h : (name, T) ∈ Gen.srcLangs) : TablesOK T = true :=
  forall_srcLangs (C := fun T => TablesOK T = true) tablesOK_none tablesOK_de tablesOK_en tablesOK_es tablesOK_fr
    tablesOK_pt tablesOK_ru h

/-- closure of a reduce table: with single-character keys folding never interacts with the neighbours, and with
    no replacement character a key it is idempotent: after `unicode_reduce` no character of the text is a key -/
def FoldClosed (m : List (List Nat × List Nat)) : Bool :=
  m.all (fun e => e.1.length == 1 && e.2.all (fun c => (mapGet m [c]).isNone))

theorem foldClosed_none : FoldClosed Gen.lang_none.reduce = true := by decide +kernel
theorem foldClosed_de : FoldClosed Gen.lang_de.reduce = true := by decide +kernel
theorem foldClosed_en : FoldClosed Gen.lang_en.reduce = true := by decide +kernel
theorem foldClosed_es : FoldClosed Gen.lang_es.reduce = true := by decide +kernel
theorem foldClosed_fr : FoldClosed Gen.lang_fr.reduce = true := by decide +kernel
theorem foldClosed_pt : FoldClosed Gen.lang_pt.reduce = true := by decide +kernel
theorem foldClosed_ru : FoldClosed Gen.lang_ru.reduce = true := by decide +kernel

theorem foldClosed_of_srcLangs {name : String} {T : LangTables} (h : (name, T) ∈ Gen.srcLangs) :
    FoldClosed T.reduce = true :=
  forall_srcLangs (C := fun T => FoldClosed T.reduce = true) foldClosed_none foldClosed_de foldClosed_en foldClosed_es
    foldClosed_fr foldClosed_pt foldClosed_ru h

/-- oracle/table fact: lower-casing never turns a character the reduce table leaves alone into a key of the
    reduce table (checked by the harness over all scalars against Rust's `std` and the real tables) -/
def LowerKeyFree (E : Env) : Prop :=
  ∀ c, mapGet E.T.reduce [c] = none → mapGet E.T.reduce [E.U.lower1 c] = none

/-- Snowball oracle: the stem of a non-empty word *that can reach the stemmer* — one none of whose characters
    is a key of the language's reduce table, since `normalize` runs before `set_stem` — has between 1 and
    `|w|` characters.  (Unrestricted, the bound is false for the real German stemmer: it rewrites `ß` to `ss`
    itself, so `stem "ß" = 2`; but the German reduce table maps `ß → ss` first.) -/
def StemBounded (E : Env) : Prop :=
  ∀ w : List Nat, w ≠ [] → (∀ c ∈ w, mapGet E.T.reduce [c] = none) → 1 ≤ E.stem w ∧ E.stem w ≤ w.length

/-- edit costs: what the distance theorems need of the generated constants. The three exact values are the units
    of the sandwich `5·DLunit ≤ D ≤ 10·DLunit` and of the score arithmetic; of the per-class costs only `0 < c ≤ 10`
    and `5 ∣ c` are used. -/
def CostsOK (K : Consts) : Bool :=
  decide (0 < K.costVowel) && decide (0 < K.costNotAlpha) && decide (0 < K.costConsonant) && decide (0 < K.costDefault) &&
  decide (K.costVowel ≤ 10) && decide (K.costNotAlpha ≤ 10) && decide (K.costConsonant ≤ 10) && decide (K.costDefault ≤ 10) &&
  decide (K.costSingle = 10) && decide (K.costDouble = 5) && decide (K.costTrans = 5) &&
  decide (K.costVowel % 5 = 0) && decide (K.costNotAlpha % 5 = 0) && decide (K.costConsonant % 5 = 0) && decide (K.costDefault % 5 = 0)

theorem costsOK_src : CostsOK Gen.srcConsts = true := by decide

/-- what a table with one-character keys makes of `c`: its entry, or `c` itself (reduce and compose tables alike) -/
def red1 (m : List (List Nat × List Nat)) (c : Nat) : List Nat := (mapGet m [c]).getD [c]

/-- closure of the reduce table under case, relative to the oracle's `lower1`; asked only at the characters `cs` of
    the strings a theorem speaks of, so that a toy oracle can decide it (`caseClosed_src`: every `c`, std tables) -/
def CaseClosedOn (E : Env) (cs : List Nat) : Prop :=
  ∀ c ∈ cs, (red1 E.T.reduce c).map E.U.lower1 = (red1 E.T.reduce (E.U.lower1 c)).map E.U.lower1

/-- `UnicodeFacts.lower_sep` is one half of this -/
def SepLowerOn (E : Env) (cs : List Nat) : Prop :=
  ∀ c ∈ cs, isSepChar E.U E.K (E.U.lower1 c) = isSepChar E.U E.K c

def asciiLowerChar (c : Nat) : Bool := (decide (97 ≤ c) && decide (c ≤ 122)) || (decide (48 ≤ c) && decide (c ≤ 57))

/-- oracle hypothesis about Rust's `std` on the 36 code points `a`–`z`, `0`–`9`; a theorem for the `std` table dump
    (`asciiFacts_src`) -/
structure AsciiFacts (U : Unicode) : Prop where
  alpha     : ∀ c, 97 ≤ c → c ≤ 122 → U.isAlphabetic c = true
  numeric   : ∀ c, 48 ≤ c → c ≤ 57 → U.isNumeric c = true
  not_space : ∀ c, asciiLowerChar c = true → U.isWhitespace c = false
  not_ctrl  : ∀ c, asciiLowerChar c = true → U.isControl c = false
  lower_fixed : ∀ c, asciiLowerChar c = true → U.lower1 c = c

end Lucid
