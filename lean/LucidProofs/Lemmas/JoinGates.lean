/-
  LucidProofs.Lemmas.JoinGates — `word_match` (`matching/word.rs`, model `Lucid.wordMatch`) on a pair of words
  one of which is the other with ONE extra character of the cheap class `notAlpha` (a separator) inserted: the two
  words of a `SepPair`, joined (`WordShape.join`), against the word that runs them together. The distance between
  the two is exactly the cost of that character, 0.5 (`sliceDist_join_record`), and no shorter slice of the joined
  word is closer (`sliceDist_join_ge`); hence `wordMatch_split` (title word `xy`, query words `x␣y`) and
  `wordMatch_joined` (title words `x␣y`, query word `xy`).
-/
import LucidProofs.Lemmas.Gates

namespace Lucid
open DL

/-- the thresholds and the cost the split/joined spellings rely on: the gates of `GateNumsOK`; one character more
    or less is tolerated from length 4 on; half a typo is tolerated from length 3 on; a `notAlpha` character
    costs half a typo -/
def JoinNumsOK (K : Consts) : Bool :=
  GateNumsOK K && decide (K.lenDen * 1 < K.lenNum * 4) && decide (K.damDen * 5 ≤ K.damNum * 10 * 3) &&
  decide (K.costNotAlpha = 5)

theorem joinNumsOK_src : JoinNumsOK Gen.srcConsts = true := by decide

theorem joinNumsOK_spec {K : Consts} (h : JoinNumsOK K = true) :
    GateNumsOK K = true ∧ K.lenDen * 1 < K.lenNum * 4 ∧ K.damDen * 5 ≤ K.damNum * 10 * 3 ∧ K.costNotAlpha = 5 := by
  simp only [JoinNumsOK, Bool.and_eq_true, decide_eq_true_eq] at h
  exact ⟨h.1.1.1, h.1.1.2, h.1.2, h.2⟩

theorem lengthCheck_off_by_one (K : Consts) (hJ : JoinNumsOK K = true) (r q : WordShape)
    (hq : 3 ≤ q.len) (hr : 3 ≤ r.len) (hn1 : q.len ≤ r.len + 1) (hn2 : r.len ≤ q.len + 1) :
    lengthCheck K r q = true :=
  lengthCheck_of_near K 4 (by have := joinNumsOK_spec hJ; omega) r q (by omega) (by omega) hn1 hn2 (fun _ => by omega)

theorem jaccardCheck_ins (K : Consts) (hN : GateNumsOK K = true) (rt : Text) (r : WordShape) (qt : Text)
    (q : WordShape) (x y : List Nat) (s : Nat)
    (h : wchars rt r = x ++ s :: y ∧ wchars qt q = x ++ y ∨ wchars rt r = x ++ y ∧ wchars qt q = x ++ s :: y)
    (hne : x ++ y ≠ []) (hlen : (wchars rt r).length = r.len) (hle : r.len ≤ q.len + 1) :
    jaccardCheck K rt r qt q = true := by
  have hJ := (gateNumsOK_spec hN).2.1
  have hsub : ∀ z, z ∈ x ++ y → z ∈ x ++ s :: y := fun _ hz =>
    ((List.sublist_cons_self s y).append_left x).subset hz
  have hone : ∀ z, z ∈ x ++ s :: y → z ∉ x ++ y → z = s := by
    intro z hz hz'
    rcases List.mem_append.mp hz with h | h
    · exact absurd (List.mem_append_left _ h) hz'
    · rcases List.mem_cons.mp h with h | h
      · exact h
      · exact absurd (List.mem_append_right _ h) hz'
  rw [jaccardCheck_iff, jaccardSlice_full rt r q hlen hle]
  rcases h with ⟨h1, h2⟩ | ⟨h1, h2⟩ <;> rw [h1, h2]
  · exact jaccard_pass K hJ _ _ (by simp) hne 1 0 (diffCard_le_one _ _ s hone)
      (Nat.le_of_eq (diffCard_eq_zero _ _ hsub)) (Or.inr (distinctCard_pos hne))
  · exact jaccard_pass K hJ _ _ hne (by simp) 0 1 (Nat.le_of_eq (diffCard_eq_zero _ _ hsub))
      (diffCard_le_one _ _ s hone) (Or.inl (distinctCard_pos hne))

/-- `a` and `b` are words of `t` with exactly one character `sep` between them, of class `notAlpha` -/
structure SepPair (t : Text) (a b : WordShape) (sep : Nat) : Prop where
  cl    : t.classes.length = t.chars.length
  a_pos : a.lo < a.hi
  adj   : b.lo = a.hi + 1
  b_pos : b.lo < b.hi
  b_le  : b.hi ≤ t.chars.length
  char  : t.chars[a.hi]? = some sep
  cls   : t.classes[a.hi]? = some CharClass.notAlpha

namespace SepPair
variable {t : Text} {a b : WordShape} {sep : Nat} (h : SepPair t a b sep)
include h

theorem wordIn_left : WordIn t a := ⟨h.a_pos, by have := h.adj; have := h.b_pos; have := h.b_le; omega, h.cl⟩
theorem wordIn_right : WordIn t b := ⟨h.b_pos, h.b_le, h.cl⟩
theorem wordIn_join : WordIn t (a.join b) :=
  ⟨by have := h.a_pos; have := h.adj; have := h.b_pos; simp only [WordShape.join]; omega, h.b_le, h.cl⟩

theorem len_join : (a.join b).len = a.len + b.len + 1 := by
  have := h.a_pos; have := h.adj; have := h.b_pos
  simp only [WordShape.len, WordShape.join]; omega

theorem stem_join : (a.join b).stem = a.len + 1 + b.stem := by
  have := h.a_pos; have := h.adj
  simp only [WordShape.len, WordShape.join]; omega

theorem wchars_join : wchars t (a.join b) = wchars t a ++ sep :: wchars t b := by
  simp only [wchars, WordShape.join, h.adj]
  exact slice_join t.chars a.lo a.hi b.hi (Nat.le_of_lt h.a_pos) (by have := h.adj; have := h.b_pos; omega) _ h.char

theorem cost_join (K : Consts) (hJ : JoinNumsOK K = true) : (cword K t (a.join b)).k (wchars t a).length = 5 := by
  obtain ⟨_, _, _, h5⟩ := joinNumsOK_spec hJ
  have hs : wclasses t (a.join b) =
      slice t.classes a.lo a.hi ++ CharClass.notAlpha :: slice t.classes (a.hi + 1) b.hi := by
    simp only [wclasses, WordShape.join]
    exact slice_join t.classes a.lo a.hi b.hi (Nat.le_of_lt h.a_pos) (by have := h.adj; have := h.b_pos; omega) _ h.cls
  have hl : (slice t.classes a.lo a.hi).length = (wchars t a).length := by
    rw [wchars_length h.wordIn_left, slice_length _ _ _
      (by have := h.cl; have := h.adj; have := h.b_pos; have := h.b_le; omega)]
    rfl
  simp only [CWord.k, cword, hs, List.map_append, List.map_cons, List.getD_eq_getElem?_getD]
  rw [List.getElem?_append_right (by simp [hl])]
  simp [hl, getCost, h5]

end SepPair

section ins
variable {K : Consts} (hC : CostsOK K = true) (hJ : JoinNumsOK K = true) {tj ts : Text} {a b s : WordShape} {sep : Nat}
  (h : SepPair tj a b sep) (hs : WordIn ts s) (hchars : wchars ts s = wchars tj a ++ wchars tj b)
include hC hJ h hs hchars

omit hC hJ in
theorem join_len_eq : (a.join b).len = s.len + 1 := by
  rw [h.len_join, ← wchars_length hs, hchars, List.length_append, wchars_length h.wordIn_left,
    wchars_length h.wordIn_right]

omit hC hJ in
theorem SepPair.len_lt : a.len < s.len := by
  have := join_len_eq h hs hchars
  have := h.len_join
  have := h.wordIn_right.len_pos
  omega

omit hC hJ in
/-- across the one separator the two words are at distance 1, so a word `s` spelled by running them together has
    room for the first word and the gap -/
theorem SepPair.len_add_dist_le : a.len + a.dist b ≤ s.len := by
  have hd : a.dist b = 1 := by
    have := h.a_pos; have := h.adj; have := h.b_pos
    unfold WordShape.dist; split <;> omega
  rw [hd]
  exact h.len_lt hs hchars

theorem sliceDist_join_record : sliceDist K tj (a.join b) ts s s.len (s.len + 1) = 5 := by
  have h1 := D_ins_le K (cword K ts s) (cword K tj (a.join b)) _ _ sep hchars h.wchars_join
  rw [h.cost_join K hJ, cword_len_of_wordIn K hs, cword_len_of_wordIn K h.wordIn_join,
    join_len_eq h hs hchars] at h1
  have h5 := sliceDist_mod5 hC (rt := tj) (qt := ts) (r := a.join b) (q := s) s.len (s.len + 1)
  have h0 := sliceDist_eq_zero_iff hC h.wordIn_join hs (Nat.le_refl s.len)
    (Nat.le_of_eq (join_len_eq h hs hchars).symm)
  have : sliceDist K tj (a.join b) ts s s.len (s.len + 1) ≠ 0 := fun e => by have := (h0.mp e).1; omega
  unfold sliceDist at *
  omega

theorem sliceDist_join_query : sliceDist K ts s tj (a.join b) (s.len + 1) s.len = 5 := by
  rw [sliceDist, D_symm]; exact sliceDist_join_record hC hJ h hs hchars

omit hJ in
theorem sliceDist_join_ge (hnosep : sep ∉ wchars ts s) {rs : Nat} (hrs : rs ≤ s.len) :
    5 ≤ sliceDist K tj (a.join b) ts s s.len rs := by
  have h5 := sliceDist_mod5 hC (rt := tj) (qt := ts) (r := a.join b) (q := s) s.len rs
  have hz := sliceDist_eq_zero_iff hC h.wordIn_join hs (Nat.le_refl s.len)
    (by rw [join_len_eq h hs hchars]; omega : rs ≤ (a.join b).len)
  by_cases h0 : sliceDist K tj (a.join b) ts s s.len rs = 0
  · exfalso
    have e := (hz.mp h0).2 (wchars tj a).length (by rw [wchars_length h.wordIn_left]; exact h.len_lt hs hchars)
    rw [hchars, h.wchars_join, ← Nat.add_zero (wchars tj a).length, getD_append_right, getD_append_right] at e
    cases hy : wchars tj b with
    | nil => exact absurd hy (wchars_ne_nil h.wordIn_right)
    | cons c l =>
      rw [hy] at e
      simp only [List.getD_cons_zero] at e
      exact hnosep (by rw [hchars, hy, ← e]; simp)
  · omega

end ins

theorem sliceAdm_whole (K : Consts) (hJ : JoinNumsOK K = true) {rt qt : Text} {r q : WordShape}
    (hq : q.stem ≤ q.len) (hr : r.stem ≤ r.len) (hne : r.len ≠ q.len) (hn1 : r.len ≤ q.len + 1)
    (hn2 : q.len ≤ r.len + 1) (h3 : 3 ≤ max q.len r.len) (hD : sliceDist K rt r qt q q.len r.len = 5) :
    SliceAdm K rt r qt q r.len q.len :=
  ⟨Nat.le_refl _, Nat.le_refl _, hq, fun h => hne (h.1.trans h.2.symm), fun h => absurd hr (Nat.not_le.mpr h.2),
    ⟨hn1, hn2⟩, by rw [hD]; exact relTooBig_of_le K 5 3 (joinNumsOK_spec hJ).2.2.1 (Nat.le_refl _) h3⟩

/-- Run-together spelling, word level. Title words `w1 w2` separated by ONE character `sep` of class `notAlpha`,
    query word `v` with the characters of `w1` followed by those of `w2`, at least three characters, stem = whole
    word, not containing `sep`. Then `word_match(w1.join(w2), v)` returns exactly the pair
    `(rslice, qslice, typos) = (|v| + 1, |v|, 0.5)`: the stem admits `qslice = |v|` only, the whole joined word is
    visited first and is half a typo away, and no shorter record slice is closer. -/
theorem wordMatch_joined (K : Consts) (hC : CostsOK K = true) (hJ : JoinNumsOK K = true)
    {rt qt : Text} {w1 w2 v : WordShape} {sep : Nat} (h : SepPair rt w1 w2 sep) (hs2 : w2.stem ≤ w2.len)
    (hv : WordIn qt v) (hL : 3 ≤ v.len) (hstem : v.stem = v.len)
    (hchars : wchars qt v = wchars rt w1 ++ wchars rt w2) (hnosep : sep ∉ wchars qt v) :
    wordMatch K rt (w1.join w2) qt v = some (newPair K (w1.join w2) v (v.len + 1) v.len 5) := by
  have hrl := join_len_eq h hv hchars
  have hst := h.stem_join
  have hl := h.len_join
  have hD5 := sliceDist_join_record hC hJ h hv hchars
  have hne : wchars rt w1 ++ wchars rt w2 ≠ [] := hchars ▸ wchars_ne_nil hv
  rw [← hD5, ← hrl]
  refine wordMatch_eq_some hC h.wordIn_join hv
    (lengthCheck_off_by_one K hJ _ _ hL (by omega) (by omega) (by omega))
    (jaccardCheck_ins K (joinNumsOK_spec hJ).1 rt _ qt v _ _ sep (Or.inl ⟨h.wchars_join, hchars⟩) hne
      (wchars_length h.wordIn_join) (by omega))
    (sliceAdm_whole K hJ (Nat.le_of_eq hstem) (by omega) (by omega) (by omega) (by omega) (by omega) (hrl ▸ hD5))
    fun rs qs a => ?_
  rw [hrl]
  obtain rfl : qs = v.len := by have := a.q_le; have := a.stem; omega
  have := a.r_le
  refine ⟨?_, fun hb => by omega⟩
  by_cases e : rs = v.len + 1
  · rw [e]; exact Nat.le_refl _
  · rw [hD5]; exact sliceDist_join_ge hC h hv hchars hnosep (by omega)

/-- Split spelling, word level. Title word `w` of at least three characters; query words `q0 q1` separated by ONE
    character of class `notAlpha`, whose characters run together are those of `w`. Then
    `word_match(w, q0.join(q1))` returns a pair, and the matched part of the joined query word reaches into `q1`:
    the pair of whole words is admitted at half a typo, and every admitted query slice covers the joined stem. -/
theorem wordMatch_split (K : Consts) (hC : CostsOK K = true) (hJ : JoinNumsOK K = true)
    {rt qt : Text} {w q0 q1 : WordShape} {sep : Nat} (hw : WordIn rt w) (hws : w.stem ≤ w.len) (hn : 3 ≤ w.len)
    (h : SepPair qt q0 q1 sep) (hs1 : 1 ≤ q1.stem) (hs1' : q1.stem ≤ q1.len)
    (hchars : wchars qt q0 ++ wchars qt q1 = wchars rt w) :
    ∃ p, wordMatch K rt w qt (q0.join q1) = some p ∧ q1.lo < q0.lo + p.2.subHi := by
  have hql := join_len_eq h hw hchars.symm
  have hst := h.stem_join
  have hl := h.len_join
  have hD5 := sliceDist_join_query hC hJ h hw hchars.symm
  have hne : wchars qt q0 ++ wchars qt q1 ≠ [] := hchars ▸ wchars_ne_nil hw
  have hsome := wordMatch_ne_none hC hw h.wordIn_join
    (lengthCheck_off_by_one K hJ _ _ (by omega) hn (by omega) (by omega))
    (jaccardCheck_ins K (joinNumsOK_spec hJ).1 rt w qt _ _ _ sep (Or.inr ⟨hchars.symm, h.wchars_join⟩) hne
      (wchars_length hw) (by omega))
    (sliceAdm_whole K hJ (by omega) hws (by omega) (by omega) (by omega) (by omega) (hql ▸ hD5))
  cases hres : wordMatch K rt w qt (q0.join q1) with
  | none => exact absurd hres hsome
  | some p =>
    obtain ⟨_, _, rs, qs, a, rfl, _⟩ := wordMatch_some hC hw h.wordIn_join hres
    have := a.stem
    have := h.a_pos; have := h.adj
    have : q0.len = q0.hi - q0.lo := rfl
    exact ⟨_, rfl, show q1.lo < q0.lo + qs by omega⟩

end Lucid
