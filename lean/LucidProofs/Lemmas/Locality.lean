/-
  LucidProofs.Lemmas.Locality — what a search result depends on.

  `scoreHit` (score vector, matches), the filter `hitMatches` and the rendering of a hit depend only on the record's
  own `(id, title, rating)` and the query — not on the record's position `ix`, not on other records; `verdict K dv q d`
  is the result a record `d = (id, title, rating)` produces on its own (or `none`).

  THE statement of this file (`listed_TopK_pool` with `pool_sub`, `pool_pairwise`, `pool_perm`): in a store
  satisfying the invariant the records behind the results are a bounded selection (`TopK`), in hit order, from a
  `pool` of records of the store at distinct positions that are hits on their own; below the cap the pool is ALL
  such records (`pool_perm`; for a query without words only while the store holds no more records than the limit). Soundness, no duplicates, completeness, the exact list, the prefix property and the independence
  of the insertion order are this statement combined with the generic facts about `TopK` (`Lemmas/TopK.lean`).
-/
import LucidModel.Gen.Consts
import LucidProofs.Lemmas.Candidates

namespace Lucid

/-! ## `mkStore`: the freshly constructed store -/

/-- `Store::new()`, then the limit, the markers, then every `(id, title, rating)` record in order -/
abbrev mkStore (K : Consts) (limit : Nat) (dv : List Nat × List Nat) (recs : List (Nat × Text × Nat)) : Store :=
  Store.fresh K limit dv recs

theorem StoreIndexInv.fresh (K : Consts) (limit : Nat) (dv : List Nat × List Nat)
    (rs : List (Nat × Text × Nat)) : StoreIndexInv (Store.fresh K limit dv rs) :=
  (StoreInv_fresh ⟨fun _ l => l⟩ K limit dv rs).indexInv

theorem mkStore_setLimit (K : Consts) (l L : Nat) (dv : List Nat × List Nat) (recs : List (Nat × Text × Nat)) :
    (mkStore K L dv recs).setLimit l = mkStore K l dv recs := by
  simp [fresh_eq, Store.setLimit]

theorem mkStore_records_data (K : Consts) (limit : Nat) (dv : List Nat × List Nat) (recs : List (Nat × Text × Nat)) :
    (mkStore K limit dv recs).records.map Record.data = recs := by
  simp [fresh_eq, mkRecords_map_data]

theorem mkStore_records_length (K : Consts) (limit : Nat) (dv : List Nat × List Nat) (recs : List (Nat × Text × Nat)) :
    (mkStore K limit dv recs).records.length = recs.length := by
  simp [fresh_eq, mkRecords_length]

/-! ## locality of `scoreHit`, `hitMatches`, `hitLe`, `render` -/

theorem scoreHit_scores (K : Consts) (order : List ScoreType) (q : Text) (r : Record) :
    (scoreHit K order q r).scores = order.map (scoreOf r.title r.rating (textMatch K r.title q).1) := rfl
theorem scoreHit_title (K : Consts) (order : List ScoreType) (q : Text) (r : Record) :
    (scoreHit K order q r).title = r.title := rfl
theorem scoreHit_rating (K : Consts) (order : List ScoreType) (q : Text) (r : Record) :
    (scoreHit K order q r).rating = r.rating := rfl

theorem hitMatches_scoreHit_local (K : Consts) (order order' : List ScoreType) (q : Text) (r r' : Record)
    (ht : r.title = r'.title) :
    hitMatches q (scoreHit K order q r) = hitMatches q (scoreHit K order' q r') := by
  unfold hitMatches; simp only [scoreHit_rmatches, scoreHit_qmatches, ht]

/-- the comparison of two hits depends only on the two records' titles and ratings -/
theorem hitLe_scoreHit_local (K : Consts) (order : List ScoreType) (q : Text) (a a' b b' : Record)
    (hat : a.title = a'.title) (har : a.rating = a'.rating) (hbt : b.title = b'.title) (hbr : b.rating = b'.rating) :
    hitLe (scoreHit K order q a) (scoreHit K order q b) = hitLe (scoreHit K order q a') (scoreHit K order q b') := by
  simp only [hitLe, scoreHit_scores, hat, har, hbt, hbr]

/-- the rendering of a hit depends only on its id, title, record matches and the markers -/
theorem render_local (st st' : Store) (h h' : Hit) (hd : st.dividers = st'.dividers) (hid : h.id = h'.id)
    (ht : h.title = h'.title) (hm : h.rmatches = h'.rmatches) : st.render h = st'.render h' := by
  simp only [Store.render, highlight, hd, hid, ht, hm]

/-- … hence the rendering of a record's hit depends only on the record's id and title, the query and the markers -/
theorem renderWith_scoreHit_local (K : Consts) (order order' : List ScoreType) (dv : List Nat × List Nat) (q : Text)
    (r r' : Record) (hid : r.id = r'.id) (ht : r.title = r'.title) :
    renderWith dv (scoreHit K order q r) = renderWith dv (scoreHit K order' q r') := by
  simp only [renderWith, highlight, scoreHit_id, scoreHit_title, scoreHit_rmatches, hid, ht]

def Hit.noIx (h : Hit) : Hit := { h with ix := 0 }

/-- the scored hit of a record given as `(id, title, rating)` -/
def dataHit (K : Consts) (order : List ScoreType) (q : Text) (d : Nat × Text × Nat) : Hit :=
  scoreHit K order q { ix := 0, id := d.1, title := d.2.1, rating := d.2.2 }

theorem scoreHit_noIx (K : Consts) (order : List ScoreType) (q : Text) (r : Record) :
    (scoreHit K order q r).noIx = dataHit K order q r.data := rfl
theorem renderWith_noIx (dv : List Nat × List Nat) (h : Hit) : renderWith dv h.noIx = renderWith dv h := rfl
theorem hitMatches_noIx (q : Text) (h : Hit) : hitMatches q h.noIx = hitMatches q h := rfl

def dataLe (K : Consts) (order : List ScoreType) (q : Text) (a b : Nat × Text × Nat) : Bool :=
  hitLe (dataHit K order q a) (dataHit K order q b)

theorem dataLe_record (K : Consts) (order : List ScoreType) (q : Text) (a b : Record) :
    dataLe K order q a.data b.data = hitLe (scoreHit K order q a) (scoreHit K order q b) := rfl

theorem dataLe_preorder (K : Consts) (order : List ScoreType) (q : Text) : Preorder' (dataLe K order q) :=
  hitLe_preorder.comap _

/-! ## the verdict of a record on its own -/

/-- candidate condition: the query has no word, or title and query share a gram -/
def isCand (q t : Text) : Bool := decide (q.words = []) || sharesGram q t

/-- a record with title `t` is a hit for `q`: it is a candidate (the query has no word, or title and query share a
    gram) and its matches pass the filter. Depends on the title and the query only. -/
def isHit (K : Consts) (q t : Text) : Bool :=
  (decide (q.words = []) || sharesGram q t) &&
    hitMatches q (scoreHit K [] q { ix := 0, id := 0, title := t, rating := 0 })

/-- what a record `(id, title, rating)` yields on its own: its rendered hit, or nothing. (The rating plays no role.) -/
def verdict (K : Consts) (dv : List Nat × List Nat) (q : Text) (d : Nat × Text × Nat) : Option Result :=
  if isHit K q d.2.1 then some (renderWith dv (dataHit K [] q d)) else none

theorem verdict_rating_irrelevant (K : Consts) (dv : List Nat × List Nat) (q : Text) (id : Nat) (t : Text)
    (r r' : Nat) : verdict K dv q (id, t, r) = verdict K dv q (id, t, r') := rfl

theorem isHit_eq (K : Consts) (order : List ScoreType) (q : Text) (r : Record) :
    isHit K q r.title = (isCand q r.title && hitMatches q (scoreHit K order q r)) := by
  rw [isHit, isCand, hitMatches_scoreHit_local K [] order q ⟨0, 0, r.title, 0⟩ r rfl]

theorem verdict_of_isHit (K : Consts) (order : List ScoreType) (dv : List Nat × List Nat) (q : Text)
    (d : Nat × Text × Nat) (h : isHit K q d.2.1 = true) :
    verdict K dv q d = some (renderWith dv (dataHit K order q d)) := by
  simp only [verdict, h, if_true]
  congr 1

theorem verdict_of_not_isHit (K : Consts) (dv : List Nat × List Nat) (q : Text) (d : Nat × Text × Nat)
    (h : isHit K q d.2.1 = false) : verdict K dv q d = none := by
  simp [verdict, h]

theorem verdict_eq_some_iff (K : Consts) (order : List ScoreType) (dv : List Nat × List Nat) (q : Text) (r : Record)
    (res : Result) :
    verdict K dv q r.data = some res ↔ isHit K q r.title = true ∧ res = renderWith dv (scoreHit K order q r) := by
  by_cases h : isHit K q r.title = true
  · rw [verdict_of_isHit K order dv q r.data h]
    simp only [h, Option.some.injEq, true_and, eq_comm]
    rfl
  · rw [verdict_of_not_isHit K dv q r.data (show isHit K q r.title = false by simpa using h)]
    simp [h]

/-! ## the pool a search selects from -/

section Pool
variable {S : Sorter} {K : Consts} {st : Store}

theorem ix_of_getElem? (h : StoreInv S K st) {i : Nat} {r : Record} (e : st.records[i]? = some r) : r.ix = i := by
  obtain ⟨hi, rfl⟩ := List.getElem?_eq_some_iff.mp e
  exact h.ixPos i hi

theorem records_pairwise_ix (h : StoreInv S K st) : st.records.Pairwise (fun a b => a.ix ≠ b.ix) :=
  List.pairwise_iff_getElem.mpr fun i j hi hj hij => by rw [h.ixPos i hi, h.ixPos j hj]; omega

theorem mem_candRecs (h : StoreInv S K st) {q : Text} {r : Record} :
    r ∈ st.candRecs S K q ↔ r ∈ st.records ∧ r.ix ∈ (st.candidatesM S K q).1 := by
  rw [Store.candRecs, List.mem_filterMap]
  exact ⟨fun ⟨_, hix, e⟩ => ⟨List.mem_of_getElem? e, ix_of_getElem? h e ▸ hix⟩,
    fun ⟨hr, hix⟩ => ⟨_, hix, records_lookup h r hr⟩⟩

/-- the candidate records that are hits on their own -/
def Store.pool (S : Sorter) (K : Consts) (st : Store) (q : Text) : List Record :=
  (st.candRecs S K q).filter (fun r => isHit K q r.title)

theorem pool_sub (q : Text) : ∀ r ∈ st.pool S K q, r ∈ st.records ∧ isHit K q r.title = true :=
  fun r hr => ⟨candRecs_subset S K st q r (List.mem_filter.mp hr).1, (List.mem_filter.mp hr).2⟩

theorem listed_length_le (hS : SorterOK S) (hK : 1 ≤ K.sortFactor) (order : List ScoreType) (st : Store) (q : Text) :
    (st.listed S K order q).length ≤ st.limit :=
  (listed_TopK hS order st q).length_le

theorem candidates_in_range (S : Sorter) (hS : SorterOK S) (K : Consts) {st : Store}
    (hV : StoreInv S K st) (q : Text) :
    ∀ ix ∈ (st.candidatesM S K q).1, ix < st.records.length := by
  intro ix hix
  by_cases hq : q.words = []
  · rw [candidatesM_empty hV q hq] at hix
    obtain ⟨r, hr, rfl⟩ := List.mem_map.mp hix
    obtain ⟨i, hi, rfl⟩ := List.mem_iff_getElem.mp ((cand_TopK S hS K st).mem_of_mem hr)
    rw [hV.ixPos i hi]; exact hi
  · exact (mem_candidates_wordy hS hV.indexInv hq hix).1

variable (hS : SorterOK S) (h : StoreInv S K st) (q : Text)
include hS h

theorem candidates_nodup : (st.candidatesM S K q).1.Nodup := by
  by_cases hq : q.words = []
  · rw [candidatesM_empty h q hq]
    exact (cand_TopK S hS K st).map_nodup _ (List.pairwise_map.mpr (records_pairwise_ix h))
  · exact candidates_nodup_wordy hS h.indexInv hq

theorem candRecs_pairwise : (st.candRecs S K q).Pairwise (fun a b => a.ix ≠ b.ix) :=
  List.Pairwise.filterMap _ (fun a a' hne b e b' e' => by rwa [ix_of_getElem? h e, ix_of_getElem? h e'])
    (candidates_nodup hS h q)

theorem candRecs_isCand : ∀ r ∈ st.candRecs S K q, isCand q r.title = true := by
  intro r hr
  by_cases hq : q.words = []
  · simp [isCand, hq]
  · obtain ⟨ix, hix, e⟩ := List.mem_filterMap.mp hr
    obtain ⟨hlt, hs⟩ := mem_candidates_wordy hS h.indexInv hq hix
    obtain ⟨_, rfl⟩ := List.getElem?_eq_some_iff.mp e
    simp [isCand, hs]

/-- `hq`: an empty query takes its candidates from the `top_ixs` selection, which is all the records only below the
    limit -/
theorem candRecs_perm (hcap : st.records.length ≤ st.limit * K.prepFactor)
    (hq : q.words ≠ [] ∨ st.records.length ≤ st.limit) :
    (st.candRecs S K q).Perm (st.records.filter (fun r => isCand q r.title)) := by
  by_cases hw : q.words = []
  · rw [candRecs_empty hS h q hw, List.filter_eq_self.mpr (fun r _ => by simp [isCand, hw])]
    exact (cand_TopK S hS K st).perm_of_length_le (hq.resolve_left (· hw))
  · have nd : ∀ {l : List Record}, l.Pairwise (fun a b => a.ix ≠ b.ix) → l.Nodup :=
      fun hl => hl.imp (fun hne e => hne (congrArg _ e))
    rw [List.perm_ext_iff_of_nodup (nd (candRecs_pairwise hS h q))
      (nd ((records_pairwise_ix h).sublist List.filter_sublist))]
    intro r
    rw [List.mem_filter]
    refine ⟨fun hr => ⟨candRecs_subset S K st q r hr, candRecs_isCand hS h q r hr⟩, fun ⟨hr, hc⟩ => ?_⟩
    obtain ⟨i, hi, rfl⟩ := List.mem_iff_getElem.mp hr
    refine (mem_candRecs h).mpr ⟨hr, ?_⟩
    rw [h.ixPos i hi]
    exact mem_candidates_of_shares hS h.indexInv hw hcap hi (by simpa [isCand, hw] using hc)

theorem pool_pairwise : (st.pool S K q).Pairwise (fun a b => a.ix ≠ b.ix) :=
  (candRecs_pairwise hS h q).sublist List.filter_sublist

theorem pool_perm (hcap : st.records.length ≤ st.limit * K.prepFactor)
    (hq : q.words ≠ [] ∨ st.records.length ≤ st.limit) :
    (st.pool S K q).Perm (st.records.filter (fun r => isHit K q r.title)) := by
  refine ((candRecs_perm hS h q hcap hq).filter _).trans (.of_eq ?_)
  rw [List.filter_filter]
  exact List.filter_congr fun r _ => by rw [isHit_eq K [] q r]; cases isCand q r.title <;> simp

/-- CENTRAL: the records behind the results are a bounded selection, in hit order, from the pool -/
theorem listed_TopK_pool (order : List ScoreType) :
    TopK (fun a b => hitLe (scoreHit K order q a) (scoreHit K order q b)) st.limit (st.pool S K q)
      (st.listed S K order q) := by
  have e : st.pool S K q = (st.candRecs S K q).filter (fun r => hitMatches q (scoreHit K order q r)) :=
    List.filter_congr fun r hr => by rw [isHit_eq K order q r, candRecs_isCand hS h q r hr, Bool.true_and]
  exact e ▸ listed_TopK hS order st q

theorem listed_isHit (order : List ScoreType) (r : Record) (hr : r ∈ st.listed S K order q) :
    r ∈ st.records ∧ isHit K q r.title = true :=
  pool_sub q r ((listed_TopK_pool hS h q order).mem_of_mem hr)

theorem listed_pairwise_ix (order : List ScoreType) : (st.listed S K order q).Pairwise (fun a b => a.ix ≠ b.ix) :=
  List.pairwise_map.mp
    ((listed_TopK_pool hS h q order).map_nodup Record.ix (List.pairwise_map.mpr (pool_pairwise hS h q)))

end Pool

/-! ## no ties under pairwise distinct ratings -/

theorem hitLe_antisymm_rating (K : Consts) (order : List ScoreType) (hr : ScoreType.rating ∈ order) (q : Text)
    (a b : Record) (h1 : hitLe (scoreHit K order q a) (scoreHit K order q b) = true)
    (h2 : hitLe (scoreHit K order q b) (scoreHit K order q a) = true) : a.rating = b.rating := by
  have he := scoresLe_antisymm _ _ (by simp [scoreHit_scores]) h1 h2
  rw [scoreHit_scores, scoreHit_scores, List.map_inj_left] at he
  have := he _ hr
  simp only [scoreOf] at this
  omega

theorem topLe_antisymm_rating (a b : Record) (h1 : topLe a b = true) (h2 : topLe b a = true) :
    a.rating = b.rating := by
  rw [topLe_eq, scoresLe_cons] at h1 h2
  omega

/-- "pairwise distinct ratings" for a list of `(id, title, rating)` records -/
def DistinctRatings (recs : List (Nat × Text × Nat)) : Prop := recs.Pairwise (fun a b => a.2.2 ≠ b.2.2)

theorem DistinctRatings.records {st : Store} (h : DistinctRatings (st.records.map Record.data)) :
    st.records.Pairwise (fun a b => a.rating ≠ b.rating) := by
  unfold DistinctRatings at h
  rwa [List.pairwise_map] at h

theorem dataLe_antisymm (K : Consts) (order : List ScoreType) (hr : ScoreType.rating ∈ order) (q : Text)
    {recs : List (Nat × Text × Nat)} (hd : DistinctRatings recs) : TopK.NoTies (dataLe K order q) recs :=
  TopK.noTies_of_key (·.2.2) (fun _ _ => hitLe_antisymm_rating K order hr q _ _) hd


/-! ## the exact list when the hit order has no ties; independence of the insertion order -/

section Exact
variable {S : Sorter} {K : Consts} {st : Store} (hS : SorterOK S) (order : List ScoreType) (h : StoreInv S K st)
  (q : Text)
include hS

theorem search_eq_data :
    st.search S K order q = ((st.listed S K order q).map Record.data).map
      (fun d => renderWith st.dividers (dataHit K order q d)) := by
  rw [search_eq_listed hS, List.map_map]
  rfl

include h

omit order in
theorem pool_data_perm (hcap : st.records.length ≤ st.limit * K.prepFactor)
    (hq : q.words ≠ [] ∨ st.records.length ≤ st.limit) :
    ((st.pool S K q).map Record.data).Perm ((st.records.map Record.data).filter (fun d => isHit K q d.2.1)) := by
  rw [List.filter_map]
  exact (pool_perm hS h q hcap hq).map _

theorem listed_data_TopK :
    TopK (dataLe K order q) st.limit ((st.pool S K q).map Record.data) ((st.listed S K order q).map Record.data) :=
  (listed_TopK_pool hS h q order).map Record.data (fun _ _ _ _ => rfl)

/-- CORE: if `ds` lists the records that are hits on their own, sorted by the hit order, and the order has no ties
    on `ds`, the results are the first `limit` entries of `ds`, rendered. -/
theorem search_eq_sorted_take (hcap : st.records.length ≤ st.limit * K.prepFactor)
    (hq : q.words ≠ [] ∨ st.records.length ≤ st.limit)
    (ds : List (Nat × Text × Nat))
    (hp : ds.Perm ((st.records.map Record.data).filter (fun d => isHit K q d.2.1)))
    (hs : ds.Pairwise (fun a b => dataLe K order q a b = true))
    (anti : TopK.NoTies (dataLe K order q) ds) :
    st.search S K order q = (ds.take st.limit).map (fun d => renderWith st.dividers (dataHit K order q d)) := by
  rw [search_eq_data hS,
    ((listed_data_TopK hS order h q).of_perm ((pool_data_perm hS h q hcap hq).trans hp.symm)).eq_take
      (dataLe_preorder K order q) anti hs (.refl _)]

end Exact

def dataTopLe (a b : Nat × Text × Nat) : Bool :=
  topLe { ix := 0, id := a.1, title := a.2.1, rating := a.2.2 } { ix := 0, id := b.1, title := b.2.1, rating := b.2.2 }

/-- two stores (satisfying the invariant) with the same limit and markers whose records are the same
    `(id, title, rating)` triples in a different order, with pairwise distinct ratings and below the cap,
    answer every query identically -/
theorem search_perm_invariant {S : Sorter} {K : Consts} (hS : SorterOK S)
    (order : List ScoreType) (hr : ScoreType.rating ∈ order) {A B : Store} (hA : StoreInv S K A) (hB : StoreInv S K B)
    (hlim : A.limit = B.limit) (hdv : A.dividers = B.dividers)
    (hp : (A.records.map Record.data).Perm (B.records.map Record.data))
    (hd : DistinctRatings (A.records.map Record.data))
    (hcap : A.records.length ≤ A.limit * K.prepFactor) (q : Text) :
    A.search S K order q = B.search S K order q := by
  have hlen : A.records.length = B.records.length := by simpa using hp.length_eq
  have sub : ∀ d ∈ (A.pool S K q).map Record.data, d ∈ A.records.map Record.data := fun d hd =>
    let ⟨r, hr, e⟩ := List.mem_map.mp hd; List.mem_map.mpr ⟨r, (pool_sub q r hr).1, e⟩
  -- both pools hold the same data: all own-hits (with words), the unique `topLe`-selection (without)
  have pools : ((A.pool S K q).map Record.data).Perm ((B.pool S K q).map Record.data) := by
    by_cases hw : q.words = []
    · have all : ∀ st : Store, st.pool S K q = st.candRecs S K q := fun st =>
        List.filter_eq_self.mpr fun r _ => by
          rw [isHit_eq K [] q r, hitMatches_empty_query _ (by simp [hw])]; simp [isCand, hw]
      rw [all, all, candRecs_empty hS hA q hw, candRecs_empty hS hB q hw]
      exact .of_eq (TopK.eq_of_perm (topLe_preorder.comap _)
        (TopK.noTies_of_key (·.2.2) (fun _ _ => topLe_antisymm_rating _ _) hd)
        ((cand_TopK S hS K A).map Record.data (le' := dataTopLe) (fun _ _ _ _ => rfl))
        (hlim ▸ (cand_TopK S hS K B).map Record.data (le' := dataTopLe) (fun _ _ _ _ => rfl)) hp)
    · exact (pool_data_perm hS hA q hcap (.inl hw)).trans ((hp.filter _).trans
        (pool_data_perm hS hB q (hlen ▸ hlim ▸ hcap) (.inl hw)).symm)
  rw [search_eq_data hS, search_eq_data hS, hdv, TopK.eq_of_perm (dataLe_preorder K order q)
    (fun a ha b hb => dataLe_antisymm K order hr q hd a (sub a ha) b (sub b hb))
    (listed_data_TopK hS order hA q) (hlim ▸ listed_data_TopK hS order hB q) pools]

/-! ## the freshly built store below its limit -/

/-- a store built from at most `limit` records returns the own-hits among them, in hit order -/
theorem mkStore_search {S : Sorter} {K : Consts} (hS : SorterOK S) (hP : 1 ≤ K.prepFactor)
    (order : List ScoreType) (limit : Nat) (dv : List Nat × List Nat) (recs : List (Nat × Text × Nat)) (q : Text)
    (hlen : recs.length ≤ limit) (ds : List (Nat × Text × Nat))
    (hp : ds.Perm (recs.filter (fun d => isHit K q d.2.1)))
    (hs : ds.Pairwise (fun a b => dataLe K order q a b = true)) (anti : TopK.NoTies (dataLe K order q) ds) :
    (mkStore K limit dv recs).search S K order q = ds.map (fun d => renderWith dv (dataHit K order q d)) := by
  have hlim : (Store.fresh K limit dv recs).limit = limit := by simp [fresh_eq]
  have hdv : (Store.fresh K limit dv recs).dividers = dv := by simp [fresh_eq]
  have hl : (Store.fresh K limit dv recs).records.length ≤ limit := by rwa [mkStore_records_length]
  show (Store.fresh K limit dv recs).search S K order q = _
  rw [search_eq_sorted_take hS order (StoreInv_fresh S K limit dv recs) q
      (by rw [hlim]; exact Nat.le_trans hl (Nat.le_mul_of_pos_right _ hP)) (.inr (by rw [hlim]; exact hl)) ds
      (by rwa [mkStore_records_data]) hs anti, hlim, hdv, List.take_of_length_le]
  exact Nat.le_trans (hp.length_eq ▸ List.length_filter_le _ _) hlen

/-- Two records that are both hits on their own, `d1` before `d2` in a hit order without ties on the two: the store
    holding just these two (limit ≥ 2) returns their verdicts in this order, whichever of the two was added first. -/
theorem two_store (S : Sorter) (hS : SorterOK S) (K : Consts) (hP : 1 ≤ K.prepFactor)
    (order : List ScoreType) (limit : Nat) (hl : 2 ≤ limit)
    (dv : List Nat × List Nat) (d1 d2 : Nat × Text × Nat) (q : Text)
    (h1 : isHit K q d1.2.1 = true) (h2 : isHit K q d2.2.1 = true) (hle : dataLe K order q d1 d2 = true)
    (anti : TopK.NoTies (dataLe K order q) [d1, d2]) :
    ∃ res1 res2, verdict K dv q d1 = some res1 ∧ verdict K dv q d2 = some res2 ∧
      (mkStore K limit dv [d1, d2]).search S K order q = [res1, res2] ∧
      (mkStore K limit dv [d2, d1]).search S K order q = [res1, res2] := by
  refine ⟨_, _, verdict_of_isHit K order dv q d1 h1, verdict_of_isHit K order dv q d2 h2, ?_, ?_⟩ <;>
    rw [mkStore_search hS hP order limit dv _ q (by simpa using hl) [d1, d2] _ (by simp [hle]) anti] <;>
    simp [h1, h2]
  exact .swap ..

theorem two_store_strict (S : Sorter) (hS : SorterOK S) (K : Consts) (hP : 1 ≤ K.prepFactor)
    (order : List ScoreType) (limit : Nat) (hl : 2 ≤ limit)
    (dv : List Nat × List Nat) (d1 d2 : Nat × Text × Nat) (q : Text)
    (h1 : isHit K q d1.2.1 = true) (h2 : isHit K q d2.2.1 = true)
    (hle : dataLe K order q d1 d2 = true) (hnot : dataLe K order q d2 d1 = false) :
    ∃ res1 res2, verdict K dv q d1 = some res1 ∧ verdict K dv q d2 = some res2 ∧
      (mkStore K limit dv [d1, d2]).search S K order q = [res1, res2] ∧
      (mkStore K limit dv [d2, d1]).search S K order q = [res1, res2] := by
  refine two_store S hS K hP order limit hl dv d1 d2 q h1 h2 hle fun a ha b hb hab hba => ?_
  -- a tie between `d1` and `d2` would contradict `hnot`
  simp only [List.mem_cons, List.not_mem_nil, or_false] at ha hb
  rcases ha with rfl | rfl <;> rcases hb with rfl | rfl
  · rfl
  · exact absurd hba (hnot ▸ Bool.false_ne_true)
  · exact absurd hab (hnot ▸ Bool.false_ne_true)
  · rfl

/-! ### an evaluable sorter for concrete examples -/

def locInsert {α : Type} (le : α → α → Bool) (x : α) : List α → List α
  | [] => [x]
  | y :: ys => if le x y then x :: y :: ys else y :: locInsert le x ys

/-- an insertion sort meeting `SorterOK`: structurally recursive (so that `decide` can run it, unlike the
    well-founded `List.mergeSort`), stable -/
def locInsSorter : Sorter := ⟨fun le l => l.foldr (locInsert le) []⟩

theorem locInsSorter_ok : SorterOK locInsSorter := fun le P =>
  SortSpec.of_insert P (locInsert le) (fun _ => rfl) (fun _ _ _ => rfl)

/-! ### non-vacuity -/

example : SorterOK mergeSorter := mergeSorter_ok
example : SorterOK locInsSorter := locInsSorter_ok
example : 1 ≤ Gen.srcConsts.sortFactor ∧ 1 ≤ Gen.srcConsts.prepFactor := by decide
example (S : Sorter) (K : Consts) : StoreInv S K (mkStore K 3 ([91], [93]) [(7, default, 1), (8, default, 2)]) :=
  StoreInv_fresh ..

end Lucid
