/-
  LucidProofs.Lemmas.Orders — the three comparators handed to the sorting oracle are total preorders: `hitLe` and
  `topLe` compare a key of score vectors with the one lexicographic order `scoresLe` (larger first); `countLe` is
  the order on the shared-gram counts directly.
-/
import LucidModel.Search
import LucidProofs.Lemmas.LimitSort

namespace Lucid

abbrev negNat (n : Nat) : Int := -(n : Int)

theorem scoresLe_cons (a b : Int) (as bs : List Int) :
    scoresLe (a :: as) (b :: bs) = true ↔ b < a ∨ (a = b ∧ scoresLe as bs = true) := by
  by_cases h : a = b
  · subst h; simp [scoresLe]
  · simp [scoresLe, h]

theorem scoresLe_append_left (p a b : List Int) : scoresLe (p ++ a) (p ++ b) = scoresLe a b := by
  induction p with
  | nil => rfl
  | cons x p ih => simpa [scoresLe] using ih

theorem scoresLe_total : ∀ a b : List Int, scoresLe a b = true ∨ scoresLe b a = true
  | [], _ => .inl rfl
  | _ :: _, [] => .inr rfl
  | a :: as, b :: bs => by
    rw [scoresLe_cons, scoresLe_cons]
    rcases Int.lt_trichotomy a b with h | rfl | h
    · exact .inr (.inl h)
    · exact (scoresLe_total as bs).imp (fun h => .inr ⟨rfl, h⟩) (fun h => .inr ⟨rfl, h⟩)
    · exact .inl (.inl h)

theorem scoresLe_trans : ∀ a b c : List Int, scoresLe a b = true → scoresLe b c = true → scoresLe a c = true
  | [], _, _ => fun _ _ => rfl
  | _ :: _, [], _ => fun h => nomatch h
  | _ :: _, _ :: _, [] => fun _ h => nomatch h
  | a :: as, b :: bs, c :: cs => by
    simp only [scoresLe_cons]
    rintro (h1 | ⟨rfl, h1⟩) (h2 | ⟨rfl, h2⟩)
    · exact .inl (Int.lt_trans h2 h1)
    · exact .inl h1
    · exact .inl h2
    · exact .inr ⟨rfl, scoresLe_trans as bs cs h1 h2⟩

theorem scoresLe_antisymm : ∀ a b : List Int, a.length = b.length → scoresLe a b = true → scoresLe b a = true → a = b
  | [], [], _ => fun _ _ => rfl
  | [], _ :: _, h => nomatch h
  | _ :: _, [], h => nomatch h
  | a :: as, b :: bs, hl => by
    simp only [scoresLe_cons]
    rintro (h1 | ⟨rfl, h1⟩) (h2 | ⟨e, h2⟩)
    · exact absurd h1 (Int.lt_asymm h2)
    · exact absurd (e ▸ h1) (Int.lt_irrefl _)
    · exact absurd h2 (Int.lt_irrefl _)
    · rw [scoresLe_antisymm as bs (Nat.succ.inj hl) h1 h2]

theorem scoresLe_preorder : Preorder' scoresLe := ⟨scoresLe_trans, scoresLe_total⟩

theorem hitLe_preorder : Preorder' hitLe := scoresLe_preorder.comap Hit.scores

theorem charsLe_eq : ∀ a b : List Nat,
    charsLe a b = scoresLe (a.map negNat) (b.map negNat)
  | [], _ => rfl
  | _ :: _, [] => rfl
  | a :: as, b :: bs => by
    by_cases h : a = b
    · simp [charsLe, scoresLe, charsLe_eq as bs, h]
    · simp [charsLe, scoresLe, h, Int.ofNat_inj]

theorem topLe_eq (a b : Record) :
    topLe a b = scoresLe ((a.rating : Int) :: a.title.chars.map negNat)
      ((b.rating : Int) :: b.title.chars.map negNat) := by
  by_cases h : a.rating = b.rating
  · simp [topLe, scoresLe, charsLe_eq, h]
  · simp [topLe, scoresLe, h, Int.ofNat_inj]

theorem topLe_preorder : Preorder' topLe := by
  have := scoresLe_preorder.comap fun r : Record => (r.rating : Int) :: r.title.chars.map negNat
  simpa only [← topLe_eq] using this

theorem countLe_preorder : Preorder' countLe :=
  ⟨fun a b c h1 h2 => by simp only [countLe, decide_eq_true_eq] at *; omega,
   fun a b => by simp only [countLe, decide_eq_true_eq]; omega⟩

end Lucid
