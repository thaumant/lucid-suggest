/-
  LucidProofs.Lemmas.TableClosure — what a `FoldClosed` reduce table guarantees about the text that leaves
  `TextOwn::normalize`: **no character of the normalised text is a key of the reduce table.**

  This is the fact that makes the (restricted) Snowball hypothesis `StemBounded` usable: the stemmer only ever
  sees words made of characters the reduce table leaves alone (for German: never `ß`, which the table rewrites to
  `ss` before the stemmer could do so itself and lengthen the word). `LowerKeyFree` carries the fact across
  `TextOwn::lower`.
-/
import LucidProofs.Lemmas.Normalize

namespace Lucid

/-- `cs` contains no key of the (single-character-keyed) table `m` -/
def KeyFree (m : List (List Nat × List Nat)) (cs : List Nat) : Prop := ∀ c ∈ cs, mapGet m [c] = none

theorem FoldClosed.entry {m : List (List Nat × List Nat)} (hF : FoldClosed m = true) {e : List Nat × List Nat}
    (he : e ∈ m) : e.1.length = 1 ∧ KeyFree m e.2 := by
  have := (List.all_eq_true.1 hF) e he
  simp only [Bool.and_eq_true, beq_iff_eq, List.all_eq_true, Option.isNone_iff_eq_none] at this
  exact this

/-- with single-character keys only, the two-character window of the `Normalize` iterator never matches -/
theorem mapGet_pair_none_of_foldClosed {m : List (List Nat × List Nat)} (hF : FoldClosed m = true) (a b : Nat) :
    mapGet m [a, b] = none := by
  refine (mapGet_eq_none_iff m _).2 fun e he hk => ?_
  have := (FoldClosed.entry hF he).1
  rw [hk] at this
  cases this

theorem composeWith_keyFree {m : List (List Nat × List Nat)} (hF : FoldClosed m = true) (w : List Nat) :
    KeyFree m (composeWith m w) := by
  intro x hx
  unfold composeWith at hx
  rw [List.mem_flatten] at hx
  obtain ⟨l, hl, hxl⟩ := hx
  obtain ⟨c, hc, rfl⟩ := List.mem_map.1 hl
  rcases normChunks_closed m w c hc with ⟨a, rfl, ha⟩ | hm
  · simp only [List.mem_singleton] at hxl
    subst hxl; exact ha
  · exact (FoldClosed.entry hF hm).2 x hxl

theorem normChars_keyFree (E : Env) (hF : FoldClosed E.T.reduce = true) (s : List Nat) :
    KeyFree E.T.reduce (normChars E s) :=
  composeWith_keyFree hF _

theorem keyFree_map_lower (E : Env) (hL : LowerKeyFree E) (cs : List Nat) (h : KeyFree E.T.reduce cs) :
    KeyFree E.T.reduce (cs.map E.U.lower1) := by
  intro c hc
  obtain ⟨c0, hc0, rfl⟩ := List.mem_map.1 hc
  exact hL c0 (h c0 hc0)

end Lucid
