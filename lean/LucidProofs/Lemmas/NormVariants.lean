/-
  LucidProofs.Lemmas.NormVariants — spelling variants of an input string that the tokenizer cannot tell apart
  (used by C11b: decomposed accents, folded accents, re-cased letters).

  `normalize` is the first step of both generated pipelines and it is the only step that reads the
  input string; its result on a fresh text is determined by `normChars E s` (the characters after compose and
  reduce), `normSource E s` and two junk fields (`stem` of the single word, `classes`) that `split` and
  `set_char_classes` overwrite.  Everything after `normalize` (`tokTail`) reads the characters only through
    * `isSepChar` of every character (split),
    * `isAlnum` of every character (strip),
    * `lower1` of every character (lower, which since the D5 fix maps `lower1` over the whole array; set_pos,
      set_char_classes, set_stem and the result itself read only that lower-cased array).
  `tokText_congr` is that statement.  The three variants then reduce to facts about `normChars`:
    * decomposition  : `compose (decompAt s mask) = compose s`          (`ComposeClosed` table, mark-free `s`)
    * folding        : `normChars (foldAt s mask) = normChars s`        (`FoldClosed` + `FoldMarkFree` tables)
    * re-casing      : `(normChars s').map lower1 = (normChars s).map lower1` (`CaseClosedOn`, oracle-relative)
  Since `Text.lower` lower-cases unconditionally (finding D5 fixed) the third view is literally `map lower1`.
  At the end, the lift to the registry: `add_record` / `run_search` with two raw strings that tokenise alike are
  the same step (`step_addRecord_congr`, `step_runSearch_congr`).
-/
import LucidProofs.Lemmas.Tokenize
import LucidProofs.Lemmas.TableClosure
import LucidProofs.Lemmas.QueryCongr

namespace Lucid

/-- same words, characters and classes; `source` (which a *query* text never uses) may differ -/
def Text.sameUpToSource (a b : Text) : Prop := a.words = b.words ∧ a.chars = b.chars ∧ a.classes = b.classes

theorem Text.sameUpToSource.refl (a : Text) : a.sameUpToSource a := ⟨rfl, rfl, rfl⟩

theorem Text.sameUpToSource.of_eq {a b : Text} (h : a = b) : a.sameUpToSource b := h ▸ Text.sameUpToSource.refl a

theorem Text.sameUpToSource.trans {a b c : Text} (h1 : a.sameUpToSource b) (h2 : b.sameUpToSource c) :
    a.sameUpToSource c :=
  ⟨h1.1.trans h2.1, h1.2.1.trans h2.2.1, h1.2.2.trans h2.2.2⟩

theorem Text.sameUpToSource.symm {a b : Text} (h : a.sameUpToSource b) : b.sameUpToSource a :=
  ⟨h.1.symm, h.2.1.symm, h.2.2.symm⟩

theorem QEquiv.of_sameUpToSource {q q' : Text} (h : q'.sameUpToSource q) : QEquiv 0 q q' := by
  have e : WordShape.shift 0 = id := funext fun _ => rfl
  exact QEquiv.of_prefix [] [] rfl (show _ = q.words.map (WordShape.shift 0) by rw [h.1, e, List.map_id]) h.2.1 h.2.2

theorem normSource_congr (E : Env) {s s' : List Nat} (h : compose E.T s' = compose E.T s) :
    normSource E s' = normSource E s := by
  unfold normSource; rw [h]

theorem normChars_congr (E : Env) {s s' : List Nat} (h : compose E.T s' = compose E.T s) :
    normChars E s' = normChars E s := by
  unfold normChars; unfold compose at h; rw [h]

theorem splitSpans_congr (p : Nat → Bool) (cs cs' : List Nat) (h : cs'.map p = cs.map p) (pos : Nat) (cur : Option Nat) :
    splitSpans p cs' pos cur = splitSpans p cs pos cur := by
  induction cs generalizing cs' pos cur with
  | nil =>
    have : cs' = [] := by simpa using h
    subst this; rfl
  | cons c rest ih =>
    cases cs' with
    | nil => simp at h
    | cons c' rest' =>
      simp only [List.map_cons, List.cons.injEq] at h
      cases cur with
      | none => simp only [splitSpans, h.1, ih rest' h.2]
      | some a => simp only [splitSpans, h.1, ih rest' h.2]

theorem slice_length_of_map {α β : Type} (f : α → β) (l l' : List α) (h : l'.map f = l.map f) (lo hi : Nat) :
    (slice l' lo hi).length = (slice l lo hi).length := by
  have := congrArg List.length (congrArg (fun x => slice x lo hi) h)
  simpa [← slice_map] using this

theorem splitSpanList_congr (p : Nat → Bool) (f : Bool) (cs cs' : List Nat) (h : cs'.map p = cs.map p) :
    splitSpanList p f cs' = splitSpanList p f cs := by
  have hl : cs'.length = cs.length := by simpa using congrArg List.length h
  simp only [splitSpanList, spansOf, splitSpans_congr p cs cs' h, hl]

theorem takeWhile_length_congr (p : Nat → Bool) (cs cs' : List Nat) (h : cs'.map p = cs.map p) :
    (cs'.takeWhile p).length = (cs.takeWhile p).length := by
  have e : ∀ l : List Nat, (l.takeWhile p).length = ((l.map p).takeWhile id).length := fun l => by
    rw [List.takeWhile_map, List.length_map]; rfl
  rw [e cs', e cs, h]

theorem stripSpan_congr (p : Nat → Bool) (cs cs' : List Nat) (h : cs'.map p = cs.map p) (x : Span) :
    stripSpan p cs' x = stripSpan p cs x := by
  have hs : (slice cs' x.lo x.hi).map p = (slice cs x.lo x.hi).map p := by rw [slice_map, slice_map, h]
  have hr : (slice cs' x.lo x.hi).reverse.map p = (slice cs x.lo x.hi).reverse.map p := by
    rw [List.map_reverse, List.map_reverse, hs]
  simp only [stripSpan, stripLeft, stripRight, List.length_take, takeWhile_length_congr p _ _ hs,
    takeWhile_length_congr p _ _ hr, slice_length_of_map p cs cs' h]

theorem tokText_congr (E : Env) (f : Bool) (src src' cs cs' : List Nat)
    (hsep : cs'.map (isSepChar E.U E.K) = cs.map (isSepChar E.U E.K))
    (haln : cs'.map E.U.isAlnum = cs.map E.U.isAlnum)
    (hlow : cs'.map E.U.lower1 = cs.map E.U.lower1) :
    (tokText E f src' cs').sameUpToSource (tokText E f src cs) := by
  have hna : cs'.map (fun c => !E.U.isAlnum c) = cs.map (fun c => !E.U.isAlnum c) := by
    have := congrArg (List.map (fun b : Bool => !b)) haln
    simpa [List.map_map, Function.comp_def] using this
  have hw : wordSpans E f cs' = wordSpans E f cs := by
    simp only [wordSpans, splitSpanList_congr _ f cs cs' hsep]
    congr 1
    exact List.map_congr_left (fun x _ => stripSpan_congr _ cs cs' hna x)
  simp only [Text.sameUpToSource, tokText, hw, hlow, and_self]

theorem tokenizeQuery_of_normChars (E : Env) {s s' : List Nat} (h : normChars E s' = normChars E s) :
    (tokenizeQuery Gen.srcProg E s').sameUpToSource (tokenizeQuery Gen.srcProg E s) := by
  simp only [tokenizeQuery_eq, Text.sameUpToSource, tokText, h, and_self]

theorem normChars_prefix (E : Env) (p s : List Nat) (hc : NoKeyChar E.T.compose p) (hr : NoKeyChar E.T.reduce p) :
    normChars E (p ++ s) = p ++ normChars E s := by
  unfold normChars
  rw [composeWith_prefix _ p s hc, composeWith_prefix _ p _ hr]

theorem wordSpans_sepPrefix (E : Env) (f : Bool) (p cs : List Nat) (hp : ∀ c ∈ p, isSepChar E.U E.K c = true) :
    wordSpans E f (p ++ cs) = (wordSpans E f cs).map (Span.shift p.length) := by
  induction p with
  | nil => exact (List.map_id _).symm
  | cons c p ih =>
    have h := wordSpans_append_sep E f [] c (p ++ cs) (hp c List.mem_cons_self)
    rw [List.nil_append] at h
    rw [List.cons_append, h, ih (fun x hx => hp x (List.mem_cons_of_mem _ hx)), List.map_map]
    simp [wordSpans, splitSpanList, spansOf, splitSpans, Span.shift, Function.comp_def, Nat.add_assoc]

theorem tokText_sepPrefix (E : Env) (f : Bool) (src src' p cs : List Nat)
    (hp : ∀ c ∈ p, isSepChar E.U E.K c = true) :
    QEquiv p.length (tokText E f src cs) (tokText E f src' (p ++ cs)) := by
  have e := QEquiv.of_prefix (q := tokText E f src cs) (q' := tokText E f src' (p ++ cs))
    (p.map E.U.lower1) ((p.map E.U.lower1).map (classOf E)) (by simp) ?_ (by simp [tokText]) (by simp [tokText])
  · simpa using e
  · simp only [tokText, wordSpans_sepPrefix E f p cs hp, List.zipIdx_map, List.map_map, List.map_append,
      List.length_map]
    apply List.map_congr_left
    intro x _
    have := slice_append_right (p.map E.U.lower1) (cs.map E.U.lower1) x.1.lo x.1.hi
    simp only [List.length_map] at this
    simp [Span.toWord, Span.shift, WordShape.shift, this, Nat.add_sub_add_right]

/-! ### decomposition -/

/-- `c` occurs at a non-initial position of a key of the table: a combining mark -/
def isMark (m : List (List Nat × List Nat)) (c : Nat) : Bool := m.any (fun e => (e.1.drop 1).contains c)

/-- no free-standing combining marks: the text is written with precomposed letters -/
def MarkFree (m : List (List Nat × List Nat)) (s : List Nat) : Prop := ∀ c ∈ s, isMark m c = false

instance (m : List (List Nat × List Nat)) (s : List Nat) : Decidable (MarkFree m s) := by
  unfold MarkFree; infer_instance

/-- decidable closure condition on a compose table: every key is a pair `[base, mark]`, no base is itself a
    mark (so a pair never interacts with its neighbours), and no entry is shadowed by a later one with the same
    key (`HashMap::insert` semantics). -/
def ComposeClosed (m : List (List Nat × List Nat)) : Bool :=
  m.all (fun e => e.1.length == 2 && !(isMark m (e.1.headD 0)) && decide (mapGet m e.1 = some e.2))

theorem ComposeClosed.entry {m : List (List Nat × List Nat)} (hC : ComposeClosed m = true)
    {e : List Nat × List Nat} (he : e ∈ m) :
    ∃ b k, e.1 = [b, k] ∧ isMark m b = false ∧ mapGet m [b, k] = some e.2 := by
  have := (List.all_eq_true.1 hC) e he
  simp only [Bool.and_eq_true, beq_iff_eq, Bool.not_eq_true', decide_eq_true_eq] at this
  obtain ⟨⟨hl, hm⟩, hg⟩ := this
  obtain ⟨k, v⟩ := e
  simp only at hl hm hg ⊢
  match k, hl with
  | [b, x], _ => exact ⟨b, x, rfl, by simpa using hm, hg⟩

theorem ComposeClosed.no_single {m : List (List Nat × List Nat)} (hC : ComposeClosed m = true) (c : Nat) :
    mapGet m [c] = none := by
  refine (mapGet_eq_none_iff m _).2 fun e he hk => ?_
  obtain ⟨b, k, h1, _⟩ := ComposeClosed.entry hC he
  rw [h1] at hk
  cases hk

theorem no_pair_of_not_mark {m : List (List Nat × List Nat)} (a : Nat) {x : Nat} (hx : isMark m x = false) :
    mapGet m [a, x] = none := by
  refine (mapGet_eq_none_iff m _).2 fun e he hk => ?_
  have : isMark m x = true := List.any_eq_true.2 ⟨e, he, by simp [hk]⟩
  rw [hx] at this
  cases this

/-- a decomposed spelling of `c` in the table: the key of the first entry whose replacement is `[c]`
    (the character itself if there is none) -/
def decompChar (m : List (List Nat × List Nat)) (c : Nat) : List Nat :=
  match m.find? (fun e => e.2 == [c]) with
  | some e => e.1
  | none => [c]

/-- `s` with the characters at the positions selected by `mask` written in decomposed form (positions beyond
    the end of `mask` are left alone) -/
def decompAt (m : List (List Nat × List Nat)) : List Nat → List Bool → List Nat
  | [], _ => []
  | c :: cs, bs => (if bs.headD false then decompChar m c else [c]) ++ decompAt m cs bs.tail

theorem decompAt_nil_mask (m : List (List Nat × List Nat)) (s : List Nat) : decompAt m s [] = s := by
  induction s with
  | nil => rfl
  | cons c cs ih => simp [decompAt, ih]

theorem decomp_piece {m : List (List Nat × List Nat)} (hC : ComposeClosed m = true) (c : Nat) (bit : Bool) :
    (if bit then decompChar m c else [c]) = [c] ∨
    ∃ b k, (if bit then decompChar m c else [c]) = [b, k] ∧ isMark m b = false ∧ mapGet m [b, k] = some [c] := by
  cases bit with
  | false => exact Or.inl rfl
  | true =>
    simp only [if_true]
    unfold decompChar
    cases hf : m.find? (fun e => e.2 == [c]) with
    | none => exact Or.inl rfl
    | some e =>
      right
      have he : e ∈ m := List.mem_of_find?_eq_some hf
      have hv : e.2 = [c] := by simpa using List.find?_some hf
      obtain ⟨b, k, h1, h2, h3⟩ := ComposeClosed.entry hC he
      exact ⟨b, k, h1, h2, by rw [← hv]; exact h3⟩

theorem decompAt_head {m : List (List Nat × List Nat)} (hC : ComposeClosed m = true) (s : List Nat)
    (hs : MarkFree m s) (bs : List Bool) (x : Nat) (h : (decompAt m s bs).head? = some x) : isMark m x = false := by
  cases s with
  | nil => cases h
  | cons c cs =>
    simp only [decompAt] at h
    rcases decomp_piece hC c (bs.headD false) with hp | ⟨b, k, hp, hb, _⟩ <;> rw [hp] at h <;> cases h
    · exact hs _ List.mem_cons_self
    · exact hb

theorem composeWith_decompAt {m : List (List Nat × List Nat)} (hC : ComposeClosed m = true) (s : List Nat)
    (hs : MarkFree m s) (bs : List Bool) : composeWith m (decompAt m s bs) = s := by
  induction s generalizing bs with
  | nil => rfl
  | cons c cs ih =>
    have hs' : MarkFree m cs := fun x hx => hs x (List.mem_cons_of_mem _ hx)
    simp only [decompAt]
    rcases decomp_piece hC c (bs.headD false) with hp | ⟨b, k, hp, _, hg⟩
    · rw [hp, List.singleton_append, composeWith_cons m c _
        (fun x hx => no_pair_of_not_mark c (decompAt_head hC cs hs' _ x hx)), ih hs', red1,
        ComposeClosed.no_single hC c]
      rfl
    · rw [hp]
      exact (composeWith_cons_pair m b k [c] _ hg).trans (congrArg _ (ih hs' _))

theorem composeWith_markFree {m : List (List Nat × List Nat)} (hC : ComposeClosed m = true) (s : List Nat)
    (hs : MarkFree m s) : composeWith m s = s := by
  have := composeWith_decompAt hC s hs []
  rwa [decompAt_nil_mask] at this

theorem compose_decompAt (E : Env) (hC : ComposeClosed E.T.compose = true) (s : List Nat)
    (hs : MarkFree E.T.compose s) (bs : List Bool) :
    compose E.T (decompAt E.T.compose s bs) = compose E.T s := by
  unfold compose
  rw [composeWith_decompAt hC s hs bs, composeWith_markFree hC s hs]

/-! ### folding -/

/-- decidable cross-table condition: no character of a reduce replacement is a combining mark of the compose
    table (so a folded spelling is still in composed form) -/
def FoldMarkFree (T : LangTables) : Bool :=
  T.reduce.all (fun e => e.2.all (fun c => !(isMark T.compose c)))

theorem composeWith_foldClosed {m : List (List Nat × List Nat)} (hF : FoldClosed m = true) (s : List Nat) :
    composeWith m s = s.flatMap (red1 m) := by
  induction s with
  | nil => rfl
  | cons c cs ih =>
    rw [List.flatMap_cons, composeWith_cons m c cs (fun x _ => mapGet_pair_none_of_foldClosed hF c x), ih]

theorem red1_keyFree {m : List (List Nat × List Nat)} (hF : FoldClosed m = true) (c : Nat) : KeyFree m (red1 m c) :=
  composeWith_singleton m c ▸ composeWith_keyFree hF [c]

theorem red1_idem {m : List (List Nat × List Nat)} (hF : FoldClosed m = true) (c : Nat) :
    (red1 m c).flatMap (red1 m) = red1 m c :=
  flatMap_singleton_self _ _ fun x hx => by rw [red1, red1_keyFree hF c x hx]; rfl

/-- `s` with the characters at the positions selected by `mask` replaced by what the reduce table maps them
    to (accent stripped, `ß` written `ss`, …); characters without an entry stay -/
def foldAt (m : List (List Nat × List Nat)) : List Nat → List Bool → List Nat
  | [], _ => []
  | c :: cs, bs => (if bs.headD false then red1 m c else [c]) ++ foldAt m cs bs.tail

theorem flatMap_foldAt {m : List (List Nat × List Nat)} (hF : FoldClosed m = true) (s : List Nat) (bs : List Bool) :
    (foldAt m s bs).flatMap (red1 m) = s.flatMap (red1 m) := by
  induction s generalizing bs with
  | nil => rfl
  | cons c cs ih =>
    simp only [foldAt, List.flatMap_append, List.flatMap_cons, ih]
    congr 1
    cases bs.headD false with
    | false => simp
    | true => simp only [if_true]; exact red1_idem hF c

theorem foldAt_markFree (T : LangTables) (hM : FoldMarkFree T = true) (s : List Nat) (hs : MarkFree T.compose s)
    (bs : List Bool) : MarkFree T.compose (foldAt T.reduce s bs) := by
  induction s generalizing bs with
  | nil => intro c hc; cases hc
  | cons c cs ih =>
    have hc := hs c List.mem_cons_self
    intro x hx
    simp only [foldAt, List.mem_append] at hx
    rcases hx with hx | hx
    · split at hx
      · rcases red1_cases T.reduce c with ⟨_, e⟩ | he
        · rw [e] at hx; rw [List.mem_singleton.1 hx]; exact hc
        · have := (List.all_eq_true.1 hM) _ he
          simp only [List.all_eq_true, Bool.not_eq_true'] at this
          exact this x hx
      · rw [List.mem_singleton.1 hx]; exact hc
    · exact ih (fun y hy => hs y (List.mem_cons_of_mem _ hy)) bs.tail x hx

theorem normChars_markFree (E : Env) (hC : ComposeClosed E.T.compose = true) (hF : FoldClosed E.T.reduce = true)
    (s : List Nat) (hs : MarkFree E.T.compose s) : normChars E s = s.flatMap (red1 E.T.reduce) := by
  unfold normChars
  rw [composeWith_markFree hC s hs, composeWith_foldClosed hF]

theorem normChars_foldAt (E : Env) (hC : ComposeClosed E.T.compose = true) (hF : FoldClosed E.T.reduce = true)
    (hM : FoldMarkFree E.T = true) (s : List Nat) (hs : MarkFree E.T.compose s) (bs : List Bool) :
    normChars E (foldAt E.T.reduce s bs) = normChars E s := by
  rw [normChars_markFree E hC hF s hs, normChars_markFree E hC hF _ (foldAt_markFree E.T hM s hs bs),
    flatMap_foldAt hF]

/-! ### re-casing -/

theorem flatMap_red1_lower (E : Env) (s s' : List Nat) (h : s'.map E.U.lower1 = s.map E.U.lower1)
    (hcc : CaseClosedOn E (s ++ s')) :
    (s'.flatMap (red1 E.T.reduce)).map E.U.lower1 = (s.flatMap (red1 E.T.reduce)).map E.U.lower1 := by
  induction s generalizing s' with
  | nil =>
    have : s' = [] := by simpa using h
    subst this; rfl
  | cons c cs ih =>
    cases s' with
    | nil => simp at h
    | cons c' cs' =>
      simp only [List.map_cons, List.cons.injEq] at h
      simp only [List.flatMap_cons, List.map_append]
      have e1 := hcc c (by simp)
      have e2 := hcc c' (by simp)
      rw [e1, e2, h.1]
      exact congrArg _ (ih cs' h.2 fun x hx => hcc x (by rcases List.mem_append.1 hx with hx | hx <;> simp [hx]))

theorem map_via_lower {β : Type} (E : Env) (f : Nat → β) (n n' : List Nat)
    (h : n'.map E.U.lower1 = n.map E.U.lower1)
    (hf : ∀ c ∈ n ++ n', f (E.U.lower1 c) = f c) : n'.map f = n.map f := by
  have e : ∀ l : List Nat, (∀ c ∈ l, f (E.U.lower1 c) = f c) → l.map f = (l.map E.U.lower1).map f := by
    intro l hl
    rw [List.map_map]
    apply List.map_congr_left
    intro c hc
    exact (hl c hc).symm
  rw [e n (fun c hc => hf c (List.mem_append_left _ hc)), e n' (fun c hc => hf c (List.mem_append_right _ hc)), h]

/-- `SepLowerOn` (lower-casing keeps separator-ness on these characters) is the only oracle-relative hypothesis
    besides `UnicodeFacts` -/
theorem tokText_of_lower_eq (E : Env) (hU : UnicodeFacts E.U E.K) (f : Bool) (src src' n n' : List Nat)
    (h : n'.map E.U.lower1 = n.map E.U.lower1) (hsl : SepLowerOn E (n ++ n')) :
    (tokText E f src' n').sameUpToSource (tokText E f src n) :=
  tokText_congr E f _ _ _ _ (map_via_lower E _ _ _ h hsl) (map_via_lower E _ _ _ h (fun c _ => hU.lower_alnum c)) h

theorem tokenizeQuery_of_lower_eq (E : Env) (hU : UnicodeFacts E.U E.K) (s s' : List Nat)
    (h : (normChars E s').map E.U.lower1 = (normChars E s).map E.U.lower1)
    (hsl : SepLowerOn E (normChars E s ++ normChars E s')) :
    (tokenizeQuery Gen.srcProg E s').sameUpToSource (tokenizeQuery Gen.srcProg E s) := by
  rw [tokenizeQuery_eq, tokenizeQuery_eq]
  exact tokText_of_lower_eq E hU false _ _ _ _ h hsl

theorem tokenizeRecord_of_lower_eq (E : Env) (hU : UnicodeFacts E.U E.K) (s s' : List Nat)
    (h : (normChars E s').map E.U.lower1 = (normChars E s).map E.U.lower1)
    (hsl : SepLowerOn E (normChars E s ++ normChars E s')) :
    (tokenizeRecord Gen.srcProg E s').sameUpToSource (tokenizeRecord Gen.srcProg E s) := by
  rw [tokenizeRecord_eq, tokenizeRecord_eq]
  exact tokText_of_lower_eq E hU true _ _ _ _ h hsl

theorem normChars_recase (E : Env) (hC : ComposeClosed E.T.compose = true) (hF : FoldClosed E.T.reduce = true)
    (s s' : List Nat) (hs : MarkFree E.T.compose s) (hs' : MarkFree E.T.compose s')
    (h : s'.map E.U.lower1 = s.map E.U.lower1) (hcc : CaseClosedOn E (s ++ s')) :
    (normChars E s').map E.U.lower1 = (normChars E s).map E.U.lower1 := by
  rw [normChars_markFree E hC hF s hs, normChars_markFree E hC hF s' hs']
  exact flatMap_red1_lower E s s' h hcc

theorem composeClosed_none : ComposeClosed Gen.lang_none.compose = true := by decide +kernel
theorem composeClosed_de : ComposeClosed Gen.lang_de.compose = true := by decide +kernel
theorem composeClosed_en : ComposeClosed Gen.lang_en.compose = true := by decide +kernel
theorem composeClosed_es : ComposeClosed Gen.lang_es.compose = true := by decide +kernel
theorem composeClosed_fr : ComposeClosed Gen.lang_fr.compose = true := by decide +kernel
theorem composeClosed_pt : ComposeClosed Gen.lang_pt.compose = true := by decide +kernel
theorem composeClosed_ru : ComposeClosed Gen.lang_ru.compose = true := by decide +kernel

theorem foldMarkFree_none : FoldMarkFree Gen.lang_none = true := by decide +kernel
theorem foldMarkFree_de : FoldMarkFree Gen.lang_de = true := by decide +kernel
theorem foldMarkFree_en : FoldMarkFree Gen.lang_en = true := by decide +kernel
theorem foldMarkFree_es : FoldMarkFree Gen.lang_es = true := by decide +kernel
theorem foldMarkFree_fr : FoldMarkFree Gen.lang_fr = true := by decide +kernel
theorem foldMarkFree_pt : FoldMarkFree Gen.lang_pt = true := by decide +kernel
theorem foldMarkFree_ru : FoldMarkFree Gen.lang_ru = true := by decide +kernel

theorem variantTablesOK_of_src {name : String} {T : LangTables} (h : (name, T) ∈ Gen.srcLangs) :
    ComposeClosed T.compose = true ∧ FoldClosed T.reduce = true ∧ FoldMarkFree T = true :=
  forall_srcLangs (C := fun T => ComposeClosed T.compose = true ∧ FoldClosed T.reduce = true ∧ FoldMarkFree T = true)
    ⟨composeClosed_none, foldClosed_none, foldMarkFree_none⟩ ⟨composeClosed_de, foldClosed_de, foldMarkFree_de⟩
    ⟨composeClosed_en, foldClosed_en, foldMarkFree_en⟩ ⟨composeClosed_es, foldClosed_es, foldMarkFree_es⟩
    ⟨composeClosed_fr, foldClosed_fr, foldMarkFree_fr⟩ ⟨composeClosed_pt, foldClosed_pt, foldMarkFree_pt⟩
    ⟨composeClosed_ru, foldClosed_ru, foldMarkFree_ru⟩ h

theorem step_addRecord_congr (S : Sorter) (P : Prog) (envs : Nat → Env) (g : Registry) (id recId rating : Nat)
    (title title' : List Nat)
    (h : ∀ lang st, amGet g.stores id = some (lang, st) →
      tokenizeRecord P (envs lang) title' = tokenizeRecord P (envs lang) title) :
    Registry.step S P envs g (.addRecord id recId title' rating) =
      Registry.step S P envs g (.addRecord id recId title rating) := by
  cases hg : amGet g.stores id with
  | none => simp [Registry.step, RegOp.valid, hg]
  | some p =>
    obtain ⟨lang, st⟩ := p
    simp [Registry.step, RegOp.valid, hg, h lang st hg]

theorem step_runSearch_congr (S : Sorter) (P : Prog) (envs : Nat → Env) (g : Registry) (id : Nat)
    (q q' : List Nat)
    (h : ∀ lang st, amGet g.stores id = some (lang, st) →
      st.searchM S P.K P.order (tokenizeQuery P (envs lang) q') =
        st.searchM S P.K P.order (tokenizeQuery P (envs lang) q)) :
    Registry.step S P envs g (.runSearch id q') = Registry.step S P envs g (.runSearch id q) := by
  cases hg : amGet g.stores id with
  | none => simp [Registry.step, RegOp.valid, hg]
  | some p =>
    obtain ⟨lang, st⟩ := p
    simp [Registry.step, RegOp.valid, hg, h lang st hg]

end Lucid
