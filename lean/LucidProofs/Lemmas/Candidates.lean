/-
  LucidProofs.Lemmas.Candidates — the store-level hypotheses of the findability theorems (`CandOK`,
  `Lemmas/SearchGlue.lean`) from the index invariant: in a store whose index is the trigram index of its
  records (`StoreIndexInv`, true of every reachable store) and which holds no more records than its limit, a record
  that shares at least one gram with a non-empty query is among the candidates, and the candidate list is
  duplicate-free and in range. Plus the gram fact: a query word that starts like a record word shares the gram
  `(c0, NUL, NUL)` with it (for a word one typing error away: `shares_gram_of_edit1`, `Lemmas/Edit1.lean`).
-/
import LucidProofs.Lemmas.Store

namespace Lucid

theorem StoreIndexInv_reachable (S : Sorter) (K : Consts) (order : List ScoreType) (ops : List StoreOp) :
    StoreIndexInv ((Store.new K).run S K order ops) := (StoreInv_reachable S K order ops).indexInv

/-! ### where the records of a store built by a sequence of operations come from -/

theorem run_records_from_add (S : Sorter) (K : Consts) (order : List ScoreType) (ops : List StoreOp) :
    ∀ (st : Store), ∀ r ∈ (st.run S K order ops).records,
      r ∈ st.records ∨ StoreOp.add r.id r.title r.rating ∈ ops := by
  induction ops with
  | nil => intro st r hr; exact Or.inl hr
  | cons op ops ih =>
    intro st r hr
    rcases ih (st.apply S K order op) r hr with h | h
    · cases op with
      | add id title rating =>
        simp only [Store.apply, Store.add, List.mem_append, List.mem_singleton] at h
        rcases h with h | h
        · exact Or.inl h
        · subst h; exact Or.inr (List.mem_cons_self ..)
      | clear => simp [Store.apply, Store.clear] at h
      | setLimit n => exact Or.inl h
      | setDividers l r => exact Or.inl h
      | search q => exact Or.inl ((searchM_snd_fields S K order st q).2.1 ▸ h)
    · exact Or.inr (List.mem_cons_of_mem _ h)

theorem run_new_records_add (S : Sorter) (K : Consts) (order : List ScoreType) (ops : List StoreOp) :
    ∀ r ∈ ((Store.new K).run S K order ops).records, StoreOp.add r.id r.title r.rating ∈ ops := fun r hr =>
  (run_records_from_add S K order ops _ r hr).resolve_left (by simp [Store.new])

/-! ### the candidates of a query with words: `IndexInv.prepare_TopK` for `st.index` and the titles of `st.records` -/

section Wordy
variable {S : Sorter} (hS : SorterOK S) {K : Consts} {st : Store} (hI : StoreIndexInv st) {q : Text}
  (hq : q.words ≠ [])
include hS hI hq

theorem candidates_nodup_wordy : (st.candidatesM S K q).1.Nodup := by
  rw [candidatesM_wordy S K st q hq]
  simpa using (hI.2.prepare_TopK S hS K q st.limit).map_nodup id
    (by rw [List.map_id]; exact List.nodup_range.sublist List.filter_sublist)

theorem mem_candidates_wordy {ix : Nat} (h : ix ∈ (st.candidatesM S K q).1) :
    ∃ hlt : ix < st.records.length, sharesGram q st.records[ix].title = true := by
  rw [candidatesM_wordy S K st q hq] at h
  obtain ⟨h1, h2⟩ := mem_sharingPositions.mp ((hI.2.prepare_TopK S hS K q st.limit).mem_of_mem h)
  exact ⟨by simpa using h1, by simpa using (sharedCount_pos_iff_sharesGram h1).mp h2⟩

theorem mem_candidates_of_shares (hcap : st.records.length ≤ st.limit * K.prepFactor) {ix : Nat}
    (hlt : ix < st.records.length) (hs : sharesGram q st.records[ix].title = true) :
    ix ∈ (st.candidatesM S K q).1 := by
  have hlt' : ix < (st.records.map (·.title)).length := by simpa using hlt
  rw [candidatesM_wordy S K st q hq]
  refine ((hI.2.prepare_TopK S hS K q st.limit).perm_of_length_le ?_).symm.subset
    (mem_sharingPositions.mpr ⟨hlt', (sharedCount_pos_iff_sharesGram hlt').mpr (by simpa using hs)⟩)
  exact Nat.le_trans (List.length_filter_le _ _) (by simpa using hcap)

end Wordy

/-- In a store whose index is the trigram index of its records and which holds no more records than its limit,
    the record at position `ix` is a candidate for every query that shares a gram with its title (such a query
    has a word: the grams are those of the words); candidates are duplicate-free and in range. -/
theorem candOK_of_inv (S : Sorter) (hS : SorterOK S) (K : Consts) (hP : 1 ≤ K.prepFactor)
    (st : Store) (hI : StoreIndexInv st) (hlim : st.records.length ≤ st.limit)
    (q : Text) (ix : Nat) (r : Record) (hr : st.records[ix]? = some r)
    (hg : ∃ g ∈ collectGrams q, g ∈ collectGrams r.title) :
    CandOK S K st q ix r := by
  obtain ⟨hix, rfl⟩ := List.getElem?_eq_some_iff.mp hr
  obtain ⟨g, hgq, hgr⟩ := hg
  obtain ⟨v, hv, _⟩ := mem_collectGrams.mp hgq
  have hq := List.ne_nil_of_mem hv
  exact ⟨hr, mem_candidates_of_shares hS hI hq (Nat.le_trans hlim (Nat.le_mul_of_pos_right _ hP)) hix
      (sharesGram_iff.mpr ⟨g, hgq, hgr⟩),
    candidates_nodup_wordy hS hI hq, fun j hj => (mem_candidates_wordy hS hI hq hj).1, hlim⟩

/-! ### the shared gram -/

theorem shares_gram_of_prefix {rt qt : Text} {w v : WordShape} (hw : w ∈ rt.words) (hv : v ∈ qt.words)
    (hne : wchars qt v ≠ []) (hpre : wchars qt v <+: wchars rt w) :
    ∃ g ∈ collectGrams qt, g ∈ collectGrams rt := by
  obtain ⟨t, ht⟩ := hpre
  cases hq : wchars qt v with
  | nil => exact absurd hq hne
  | cons c l =>
    rw [hq, List.cons_append] at ht
    exact ⟨(c, 0, 0),
      mem_collectGrams.mpr ⟨v, hv, by show _ ∈ trigrams (wchars qt v); rw [hq]; exact head_mem_trigrams c l⟩,
      mem_collectGrams.mpr ⟨w, hw, by show _ ∈ trigrams (wchars rt w); rw [← ht]; exact head_mem_trigrams c _⟩⟩

end Lucid
