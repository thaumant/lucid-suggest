/-
  LucidProofs.Lemmas.Normalize — `lang/normalize.rs`, `Lang::unicode_compose`, `Lang::unicode_reduce`,
  `TextOwn::normalize` (model: `normChunks`, `composeWith`, `padChunk`, `reduceWith`, `Text.normalize`).

  Under `noShrink` the padding subtraction `norm_chunk.len() - word_chunk.len()` never underflows (`reduceSafe`,
  part of property C01). The scan treats the two sides of a cut separately unless a key straddles it
  (`normChunks_append`). What `normalize` leaves of a fresh text is `normChars` and `normSource`
  (`normalize_fromChars_shape`): one word over all of `chars`; under `noShrink` source and chars have equal length
  (`normSource_length`), and the source without its NUL padding is the composed input.
-/
import LucidProofs.Lemmas.Facts

namespace Lucid

theorem mapGet_mem {κ ν : Type} [DecidableEq κ] (m : List (κ × ν)) (k : κ) (v : ν)
    (h : mapGet m k = some v) : (k, v) ∈ m := by
  induction m with
  | nil => cases h
  | cons e rest ih =>
    simp only [mapGet] at h
    split at h
    · exact List.mem_cons_of_mem _ (ih (by simp_all))
    · split at h
      · simp_all [Prod.ext_iff]
      · cases h

theorem mapGet_eq_none_iff {κ ν : Type} [DecidableEq κ] (m : List (κ × ν)) (k : κ) :
    mapGet m k = none ↔ ∀ e ∈ m, e.1 ≠ k := by
  induction m with
  | nil => simp [mapGet]
  | cons e rest ih =>
    obtain ⟨k', v'⟩ := e
    simp only [mapGet, List.mem_cons, forall_eq_or_imp, ← ih]
    cases mapGet rest k <;> simp

theorem red1_cases (m : List (List Nat × List Nat)) (c : Nat) :
    mapGet m [c] = none ∧ red1 m c = [c] ∨ ([c], red1 m c) ∈ m := by
  unfold red1
  cases h : mapGet m [c] with
  | none => exact Or.inl ⟨rfl, rfl⟩
  | some v => exact Or.inr (mapGet_mem m _ v h)

theorem normChunks_closed (m : List (List Nat × List Nat)) (w : List Nat) :
    ∀ c ∈ normChunks m w, (∃ a, c = ([a], [a]) ∧ mapGet m [a] = none) ∨ c ∈ m := by
  fun_induction normChunks m w with
  | case1 => simp
  | case2 a r h => exact List.forall_mem_singleton.2 (Or.inr (mapGet_mem _ _ _ h))
  | case3 a h => exact List.forall_mem_singleton.2 (Or.inl ⟨a, rfl, h⟩)
  | case4 a b rest r h ih => exact List.forall_mem_cons.2 ⟨Or.inr (mapGet_mem _ _ _ h), ih⟩
  | case5 a b rest _ r h ih => exact List.forall_mem_cons.2 ⟨Or.inr (mapGet_mem _ _ _ h), ih⟩
  | case6 a b rest _ h ih => exact List.forall_mem_cons.2 ⟨Or.inl ⟨a, rfl, h⟩, ih⟩

theorem normChunks_fst_flatten (m : List (List Nat × List Nat)) (w : List Nat) :
    ((normChunks m w).map (·.1)).flatten = w := by
  fun_induction normChunks m w <;> simp_all

theorem normChunks_snd_flatten (m : List (List Nat × List Nat)) (w : List Nat) :
    ((normChunks m w).map (·.2)).flatten = composeWith m w := rfl

theorem normChunks_noShrink (m : List (List Nat × List Nat)) (hm : noShrink m = true) (w : List Nat) :
    ∀ c ∈ normChunks m w, c.1.length ≤ c.2.length := by
  intro c hc
  rcases normChunks_closed m w c hc with ⟨_, rfl, _⟩ | h
  · exact Nat.le_refl _
  · have := (List.all_eq_true.1 hm) c h
    simpa using this

/-- **C01 (site `lang.rs: norm_chunk.len() - word_chunk.len()`)**: when no reduction entry is shorter than
    its key, the padding subtraction never underflows, for every input. -/
theorem reduceSafe_of_noShrink (m : List (List Nat × List Nat)) (hm : noShrink m = true) (w : List Nat) :
    reduceSafe m w = true := by
  unfold reduceSafe
  rw [List.all_eq_true]
  intro c hc
  simpa using normChunks_noShrink m hm w c hc

theorem noShrink_of_tablesOK {T : LangTables} (h : TablesOK T = true) : noShrink T.reduce = true := by
  unfold TablesOK at h
  simp only [Bool.and_eq_true] at h
  exact h.2

theorem reduceSafe_of_tablesOK {T : LangTables} (h : TablesOK T = true) (w : List Nat) :
    reduceSafe T.reduce w = true :=
  reduceSafe_of_noShrink _ (noShrink_of_tablesOK h) w

theorem reduceSafe_src_none (w : List Nat) : reduceSafe Gen.lang_none.reduce w = true :=
  reduceSafe_of_tablesOK tablesOK_none w
theorem reduceSafe_src_de (w : List Nat) : reduceSafe Gen.lang_de.reduce w = true :=
  reduceSafe_of_tablesOK tablesOK_de w
theorem reduceSafe_src_en (w : List Nat) : reduceSafe Gen.lang_en.reduce w = true :=
  reduceSafe_of_tablesOK tablesOK_en w
theorem reduceSafe_src_es (w : List Nat) : reduceSafe Gen.lang_es.reduce w = true :=
  reduceSafe_of_tablesOK tablesOK_es w
theorem reduceSafe_src_fr (w : List Nat) : reduceSafe Gen.lang_fr.reduce w = true :=
  reduceSafe_of_tablesOK tablesOK_fr w
theorem reduceSafe_src_pt (w : List Nat) : reduceSafe Gen.lang_pt.reduce w = true :=
  reduceSafe_of_tablesOK tablesOK_pt w
theorem reduceSafe_src_ru (w : List Nat) : reduceSafe Gen.lang_ru.reduce w = true :=
  reduceSafe_of_tablesOK tablesOK_ru w

theorem reduceSafe_srcLangs : ∀ p ∈ Gen.srcLangs, ∀ w, reduceSafe p.2.reduce w = true := by
  intro p hp w
  exact reduceSafe_of_tablesOK (tablesOK_of_srcLangs (name := p.1) hp) w

theorem composeWith_singleton (m : List (List Nat × List Nat)) (c : Nat) : composeWith m [c] = red1 m c := by
  cases h : mapGet m [c] <;> simp [composeWith, normChunks, red1, h]

theorem composeWith_cons_pair (m : List (List Nat × List Nat)) (a b : Nat) (v rest : List Nat)
    (h : mapGet m [a, b] = some v) : composeWith m (a :: b :: rest) = v ++ composeWith m rest := by
  simp [composeWith, normChunks, h]

theorem normChunks_append (m : List (List Nat × List Nat)) (a b : List Nat)
    (h : ∀ x y, a.getLast? = some x → b.head? = some y → mapGet m [x, y] = none) :
    normChunks m (a ++ b) = normChunks m a ++ normChunks m b := by
  fun_induction normChunks m a with
  | case1 => rfl
  | case2 x r hx => cases b <;> simp_all [normChunks]
  | case3 x hx => cases b <;> simp_all [normChunks]
  | case4 x y rest r hxy ih =>
    simp only [List.cons_append, normChunks, hxy]
    rw [ih (fun x' y' h1 => h x' y' (by simp [List.getLast?_cons, h1]))]
  | case5 x y rest hxy r hx ih =>
    simp only [List.cons_append, normChunks, hxy, hx]
    rw [← ih (fun x' y' h1 => h x' y' (by rw [List.getLast?_cons_cons]; exact h1))]; rfl
  | case6 x y rest hxy hx ih =>
    simp only [List.cons_append, normChunks, hxy, hx]
    rw [← ih (fun x' y' h1 => h x' y' (by rw [List.getLast?_cons_cons]; exact h1))]; rfl

theorem composeWith_append (m : List (List Nat × List Nat)) (a b : List Nat)
    (h : ∀ x y, a.getLast? = some x → b.head? = some y → mapGet m [x, y] = none) :
    composeWith m (a ++ b) = composeWith m a ++ composeWith m b := by
  simp only [composeWith, normChunks_append m a b h, List.map_append, List.flatten_append]

theorem composeWith_cons (m : List (List Nat × List Nat)) (c : Nat) (rest : List Nat)
    (h : ∀ x, rest.head? = some x → mapGet m [c, x] = none) :
    composeWith m (c :: rest) = red1 m c ++ composeWith m rest := by
  rw [← composeWith_singleton, ← composeWith_append m [c] rest (fun x y hx => by cases hx; exact h y)]; rfl

def NoKeyChar (m : List (List Nat × List Nat)) (p : List Nat) : Prop := ∀ c ∈ p, ∀ e ∈ m, c ∉ e.1

theorem NoKeyChar.mapGet_none {m : List (List Nat × List Nat)} {p : List Nat} (hp : NoKeyChar m p) {c : Nat}
    (hc : c ∈ p) {k : List Nat} (hk : c ∈ k) : mapGet m k = none :=
  (mapGet_eq_none_iff m k).2 fun e he hek => hp c hc e he (hek ▸ hk)

theorem composeWith_append_noKey (m : List (List Nat × List Nat)) (c : Nat) (hc : NoKeyChar m [c]) (a b : List Nat) :
    composeWith m (a ++ c :: b) = composeWith m a ++ c :: composeWith m b := by
  have hk : ∀ k, c ∈ k → mapGet m k = none := fun k => hc.mapGet_none (List.mem_singleton_self c)
  rw [composeWith_append m a _ (fun x y _ hy => by cases hy; exact hk _ (by simp)),
    composeWith_cons m c b (fun x _ => hk _ (by simp)), red1, hk [c] (by simp)]
  rfl

theorem composeWith_prefix (m : List (List Nat × List Nat)) (p s : List Nat) (hp : NoKeyChar m p) :
    composeWith m (p ++ s) = p ++ composeWith m s := by
  induction p with
  | nil => rfl
  | cons c p ih =>
    rw [List.cons_append, List.cons_append, ← ih (fun x hx => hp x (List.mem_cons_of_mem _ hx))]
    exact composeWith_append_noKey m c (fun x hx => hp x (by simp_all)) [] (p ++ s)

theorem composeWith_noKey (m : List (List Nat × List Nat)) (s : List Nat) (h : NoKeyChar m s) :
    composeWith m s = s := by
  rw [← List.append_nil s, composeWith_prefix m s [] h]; rfl

theorem padChunk_length (c : List Nat × List Nat) (h : c.1.length ≤ c.2.length) :
    (padChunk c).length = c.2.length := by
  simp only [padChunk, List.length_append, List.length_replicate]
  omega

theorem padChunk_filter (c : List Nat × List Nat) :
    (padChunk c).filter (fun x => decide (x ≠ 0)) = c.1.filter (fun x => decide (x ≠ 0)) := by
  rw [padChunk, List.filter_append, List.filter_replicate_of_neg (by simp), List.append_nil]

theorem reduceWith_eq (m : List (List Nat × List Nat)) (w : List Nat) :
    reduceWith m w =
      if composeWith m w = w then none else some (((normChunks m w).map padChunk).flatten, composeWith m w) := rfl

theorem reduceWith_none_iff (m : List (List Nat × List Nat)) (w : List Nat) :
    reduceWith m w = none ↔ composeWith m w = w := by
  rw [reduceWith_eq]; split <;> simp [*]

theorem reduceWith_some (m : List (List Nat × List Nat)) (w src chs : List Nat)
    (h : reduceWith m w = some (src, chs)) :
    src = ((normChunks m w).map padChunk).flatten ∧ chs = composeWith m w ∧ chs ≠ w := by
  rw [reduceWith_eq] at h
  split at h
  · cases h
  · cases h; exact ⟨rfl, rfl, ‹_›⟩

theorem reduceWith_length (m : List (List Nat × List Nat)) (hm : noShrink m = true) (w src chs : List Nat)
    (h : reduceWith m w = some (src, chs)) : src.length = chs.length := by
  obtain ⟨rfl, rfl, _⟩ := reduceWith_some m w src chs h
  simp only [composeWith, List.length_flatten, List.map_map]
  exact congrArg _ (List.map_congr_left fun c hc => padChunk_length c (normChunks_noShrink m hm w c hc))

theorem reduceWith_filter (m : List (List Nat × List Nat)) (w src chs : List Nat)
    (h : reduceWith m w = some (src, chs)) :
    src.filter (fun x => decide (x ≠ 0)) = w.filter (fun x => decide (x ≠ 0)) := by
  obtain ⟨rfl, _, _⟩ := reduceWith_some m w src chs h
  conv => rhs; rw [← normChunks_fst_flatten m w]
  simp only [List.filter_flatten, List.map_map]
  exact congrArg _ (List.map_congr_left fun c _ => padChunk_filter c)

/-- a text after the `normalize` step of the pipelines: one word covering all of `chars`, with the given `fin`
    flag; source and chars of equal length; the source without its NUL padding is the composed input (up to
    NULs already in it) -/
structure NormInv (E : Env) (input : List Nat) (fin : Bool) (t : Text) : Prop where
  word : ∃ w0, t.words = [w0] ∧ w0.lo = 0 ∧ w0.hi = t.chars.length ∧ w0.fin = fin
  len_source : t.source.length = t.chars.length
  source : t.source.filter (fun x => decide (x ≠ 0)) = (compose E.T input).filter (fun x => decide (x ≠ 0))

/-- the characters after `normalize`: compose, then reduce -/
def normChars (E : Env) (s : List Nat) : List Nat := composeWith E.T.reduce (composeWith E.T.compose s)

/-- the source after `normalize`: the composed input, NUL-padded where a reduction expanded a character -/
def normSource (E : Env) (s : List Nat) : List Nat :=
  match reduce E.T (compose E.T s) with
  | some r => r.1
  | none => compose E.T s

theorem normChars_eq_match (E : Env) (s : List Nat) :
    normChars E s = (match reduce E.T (compose E.T s) with | some r => r.2 | none => compose E.T s) := by
  unfold normChars
  cases hr : reduce E.T (compose E.T s) with
  | none => exact (reduceWith_none_iff _ _).1 hr
  | some r => exact (reduceWith_some _ _ _ _ hr).2.1.symm

/-- all that the later steps read is `normChars`, `normSource` and the `fin` flag: `stem` and `classes` are
    overwritten by `set_stem` and `set_char_classes` -/
theorem normalize_fromChars_shape (E : Env) (s : List Nat) :
    (Text.fromChars s).normalize E =
      { words := [{ offset := 0, lo := 0, hi := (normChars E s).length, stem := s.length, pos := none, fin := true }],
        source := normSource E s, chars := normChars E s, classes := s.map (fun _ => CharClass.any) } := by
  rw [normChars_eq_match]
  unfold normSource
  by_cases hc : compose E.T s = s
  · rw [hc]
    cases hr : reduce E.T s <;> simp [Text.normalize, Text.fromChars, hc, hr, setFirstHi]
  · cases hr : reduce E.T (compose E.T s) <;> simp [Text.normalize, Text.fromChars, hc, hr, setFirstHi]

theorem normSource_length (E : Env) (hm : noShrink E.T.reduce = true) (s : List Nat) :
    (normSource E s).length = (normChars E s).length := by
  rw [normChars_eq_match]
  unfold normSource
  cases hr : reduce E.T (compose E.T s) with
  | none => rfl
  | some r => exact reduceWith_length _ hm _ _ _ hr

theorem normSource_filter (E : Env) (s : List Nat) :
    (normSource E s).filter (fun x => decide (x ≠ 0)) = (compose E.T s).filter (fun x => decide (x ≠ 0)) := by
  unfold normSource
  cases hr : reduce E.T (compose E.T s) with
  | none => rfl
  | some r => exact reduceWith_filter _ _ _ _ hr

theorem normalize_fromChars (E : Env) (hT : TablesOK E.T = true) (s : List Nat) :
    NormInv E s true ((Text.fromChars s).normalize E) := by
  rw [normalize_fromChars_shape]
  exact ⟨⟨_, rfl, rfl, rfl, rfl⟩, normSource_length E (noShrink_of_tablesOK hT) s, normSource_filter E s⟩

/-- `Text.normalize` never hits its traps on a fresh text (one word, padding subtraction safe) -/
theorem normalizeSafe_fromChars (E : Env) (hT : TablesOK E.T = true) (s : List Nat) :
    (Text.fromChars s).normalizeSafe E = true := by
  simp [Text.normalizeSafe, Text.fromChars, reduceSafe_of_tablesOK hT]

end Lucid
