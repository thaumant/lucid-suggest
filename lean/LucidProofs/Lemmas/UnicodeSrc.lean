/-
  LucidProofs.Lemmas.UnicodeSrc — the Unicode oracle hypotheses of the model (`UnicodeFacts`, `SepLowerOn`,
  `CaseClosedOn`, `LowerKeyFree`, `AsciiFacts`), discharged for every `c : Nat` by kernel computation on the REAL
  tables of Rust's `std` (`LucidModel/Gen/Unicode.lean`, generated from a dump of
  `char::is_alphabetic / is_numeric / is_whitespace / is_control / is_uppercase` and the first character of
  `to_lowercase()` over all scalars); the findings D4 and D5 as theorems about these tables.

  Method (`Lemmas/Ranges.lean`): a table of ranges becomes one number with a bit per code point (`maskOf`), so
  that facts about sets are single bit operations for the kernel; facts about `lower1` are checks of the 1488
  pairs of the map (`lowerLookup_ind`), done in one pass (`uniLower_pairs`); the facts about the reduce tables of
  the seven languages are checked on the pairs that touch a key of any of them, found in one more pass (`touching`,
  `reduceCheck`).
-/
import LucidProofs.Lemmas.Ranges
import LucidProofs.Lemmas.Normalize

namespace Lucid
open Gen

/-! ### the generated tables are what the generator says: ascending -/

theorem uniAlpha_ascending : rangesAscending uniAlpha = true := by decide +kernel
theorem uniNumeric_ascending : rangesAscending uniNumeric = true := by decide +kernel
theorem uniWhite_ascending : rangesAscending uniWhite = true := by decide +kernel
theorem uniControl_ascending : rangesAscending uniControl = true := by decide +kernel
theorem uniUpper_ascending : rangesAscending uniUpper = true := by decide +kernel
theorem uniLower_keysAscending : keysAscending uniLower = true := by decide +kernel

def sepRanges : List (Nat × Nat) := uniWhite ++ uniControl ++ singletons srcConsts.punctuation

def alnumRanges : List (Nat × Nat) := uniAlpha ++ uniNumeric

theorem isSep_src (c : Nat) : isSepChar srcUnicode srcConsts c = inRanges sepRanges c := by
  simp only [isSepChar, srcUnicode, sepRanges, inRanges_append, inRanges_singletons]

theorem isAlnum_src (c : Nat) : srcUnicode.isAlnum c = inRanges alnumRanges c := by
  simp only [Unicode.isAlnum, srcUnicode, alnumRanges, inRanges_append]

theorem sep_alnum_disjoint : maskOf sepRanges &&& maskOf alnumRanges = 0 := by decide +kernel

theorem sep_not_alnum_src (c : Nat) (h : isSepChar srcUnicode srcConsts c = true) : srcUnicode.isAlnum c = false := by
  rw [isAlnum_src]
  exact maskOf_disjoint sep_alnum_disjoint c (by rwa [isSep_src] at h)

theorem uniLower_pairs {p : Nat × Nat} (hp : p ∈ uniLower) :
    (inRanges uniAlpha p.2 = inRanges uniAlpha p.1 ∧ inRanges uniNumeric p.2 = inRanges uniNumeric p.1) ∧
    inRanges uniUpper p.2 = false ∧ (inRanges uniAlpha p.1 || inRanges uniNumeric p.1) = true := by
  have h : uniLower.all (fun p =>
      ((maskOf uniAlpha).testBit p.2 == (maskOf uniAlpha).testBit p.1 &&
       (maskOf uniNumeric).testBit p.2 == (maskOf uniNumeric).testBit p.1) &&
      (!(maskOf uniUpper).testBit p.2 && ((maskOf uniAlpha).testBit p.1 || (maskOf uniNumeric).testBit p.1))) = true := by
    decide +kernel
  simpa only [testBit_maskOf, Bool.and_eq_true, beq_iff_eq, Bool.not_eq_true'] using List.all_eq_true.1 h p hp

theorem lower_alpha_src (c : Nat) : srcUnicode.isAlphabetic (srcUnicode.lower1 c) = srcUnicode.isAlphabetic c :=
  lowerLookup_ind (P := fun c d => inRanges uniAlpha d = inRanges uniAlpha c) uniLower
    (fun _ hp => (uniLower_pairs hp).1.1) (fun _ _ => rfl) c

theorem lower_numeric_src (c : Nat) : srcUnicode.isNumeric (srcUnicode.lower1 c) = srcUnicode.isNumeric c :=
  lowerLookup_ind (P := fun c d => inRanges uniNumeric d = inRanges uniNumeric c) uniLower
    (fun _ hp => (uniLower_pairs hp).1.2) (fun _ _ => rfl) c

theorem lower_alnum_src (c : Nat) : srcUnicode.isAlnum (srcUnicode.lower1 c) = srcUnicode.isAlnum c := by
  simp only [Unicode.isAlnum, lower_alpha_src, lower_numeric_src]

theorem lower_idem_src : ∀ c, srcUnicode.lower1 (srcUnicode.lower1 c) = srcUnicode.lower1 c :=
  lowerLookup_idem uniLower (by decide +kernel)

theorem lower_upper_src (c : Nat) : srcUnicode.isUppercase (srcUnicode.lower1 c) = true → srcUnicode.lower1 c = c :=
  lowerLookup_ind (P := fun c d => inRanges uniUpper d = true → d = c) uniLower
    (fun _ hp h => by rw [(uniLower_pairs hp).2.1] at h; cases h) (fun _ _ _ => rfl) c

/-- **lower-casing does not change whether a character is a separator** (all `c`): a character that changes is
    alphanumeric, so is its image, and alphanumerics are not separators -/
theorem sepLower_src (c : Nat) :
    isSepChar srcUnicode srcConsts (srcUnicode.lower1 c) = isSepChar srcUnicode srcConsts c := by
  refine sepLower_of_alnum sep_not_alnum_src c (lower_alnum_src c) ?_
  rcases lowerLookup_cases uniLower c with ⟨p, hp, rfl, _⟩ | ⟨_, he⟩
  · exact Or.inr (uniLower_pairs hp).2.2
  · exact Or.inl he

theorem unicodeFacts_src : UnicodeFacts srcUnicode srcConsts where
  sep_not_alnum := sep_not_alnum_src
  lower_alnum := lower_alnum_src
  lower_alpha := lower_alpha_src
  lower_sep := fun c h => by rw [sepLower_src]; exact h
  lower_idem := lower_idem_src
  lower_upper := lower_upper_src
  nul_control := by decide

theorem sepLowerOn_src (E : Env) (hU : E.U = srcUnicode) (hK : E.K = srcConsts) (cs : List Nat) : SepLowerOn E cs := by
  intro c _
  rw [hU, hK]
  exact sepLower_src c

def asciiRanges : List (Nat × Nat) := [(97, 122), (48, 57)]

theorem asciiLowerChar_eq (c : Nat) : asciiLowerChar c = inRanges asciiRanges c := by
  simp only [asciiLowerChar, asciiRanges, inRanges_cons, inRanges_nil, Bool.or_false]

theorem asciiFacts_src : AsciiFacts srcUnicode where
  alpha := fun c h1 h2 =>
    maskOf_subset (rs1 := [(97, 122)]) (rs2 := uniAlpha) (by decide +kernel) c
      (by simp [inRanges_cons, inRanges_nil, h1, h2])
  numeric := fun c h1 h2 =>
    maskOf_subset (rs1 := [(48, 57)]) (rs2 := uniNumeric) (by decide +kernel) c
      (by simp [inRanges_cons, inRanges_nil, h1, h2])
  not_space := fun c h =>
    maskOf_disjoint (rs1 := asciiRanges) (rs2 := uniWhite) (by decide +kernel) c (by rwa [asciiLowerChar_eq] at h)
  not_ctrl := fun c h =>
    maskOf_disjoint (rs1 := asciiRanges) (rs2 := uniControl) (by decide +kernel) c (by rwa [asciiLowerChar_eq] at h)
  lower_fixed := fun c h =>
    lowerLookup_of_not_key uniLower c
      (maskOf_disjoint (rs1 := asciiRanges) (rs2 := keyRanges uniLower) (by decide +kernel) c
        (by rwa [asciiLowerChar_eq] at h))

/-- the one-character keys of a table -/
def keys1 (R : List (List Nat × List Nat)) : List Nat :=
  R.filterMap (fun e => match e.1 with | [k] => some k | _ => none)

theorem mapGet_single_none (R : List (List Nat × List Nat)) (c : Nat) :
    mapGet R [c] = none ↔ inRanges (singletons (keys1 R)) c = false := by
  rw [mapGet_eq_none_iff, inRanges_singletons, ← Bool.not_eq_true, List.contains_iff_mem]
  simp only [keys1, List.mem_filterMap, not_exists, not_and]
  constructor
  · intro h e he hk
    split at hk
    · next k heq => exact h e he (by rw [heq, Option.some.inj hk])
    · cases hk
  · intro h e he hk
    exact h e he (by rw [hk])

/-- the pairs of `m` with a component among `ks`; `ks` is held as a bit mask, so this is one pass over `m` -/
def touching (ks : List Nat) (m : List (Nat × Nat)) : List (Nat × Nat) :=
  m.filter (fun p => (maskOf (singletons ks)).testBit p.1 || (maskOf (singletons ks)).testBit p.2)

theorem mem_touching {ks : List Nat} {m : List (Nat × Nat)} {p : Nat × Nat} (hp : p ∈ m)
    (h : p.1 ∈ ks ∨ p.2 ∈ ks) : p ∈ touching ks m := by
  refine List.mem_filter.2 ⟨hp, ?_⟩
  simpa only [testBit_maskOf, inRanges_singletons, Bool.or_eq_true, List.contains_iff_mem] using h

/-- The two facts wanted of a reduce table `R` and the lower-case map, checked on pairs `(c, lower c)` of the map:
    if `c` is not a key of `R` then neither is `lower c`, and folding `c` and `lower c` agree up to case. For a
    pair with no component among the keys both facts are immediate, so `ps` need only hold the pairs that touch a
    key (`touching`). `f` is the map in a form that evaluates fast. -/
def reduceCheck (f : Nat → Nat) (R : List (List Nat × List Nat)) (ps : List (Nat × Nat)) : Bool :=
  ps.all (fun p =>
    if (maskOf (singletons (keys1 R))).testBit p.1 then decide ((red1 R p.1).map f = (red1 R p.2).map f)
    else !(maskOf (singletons (keys1 R))).testBit p.2)

theorem reduceCheck_sound (R : List (List Nat × List Nat)) (m : List (Nat × Nat)) (ks : List Nat)
    (hks : ∀ k ∈ keys1 R, k ∈ ks) (hidem : ∀ c, lowerLookup m (lowerLookup m c) = lowerLookup m c)
    (h : reduceCheck (lowerLookup m) R (touching ks m) = true) (c : Nat) :
    (mapGet R [c] = none → mapGet R [lowerLookup m c] = none) ∧
    (red1 R c).map (lowerLookup m) = (red1 R (lowerLookup m c)).map (lowerLookup m) := by
  rcases lowerLookup_cases m c with ⟨p, hp, rfl, he⟩ | ⟨_, he⟩
  · rw [he]
    have hfix := hidem p.1
    rw [he] at hfix
    have key : ∀ x, inRanges (singletons (keys1 R)) x = true → x ∈ ks := fun x hx =>
      hks x (List.contains_iff_mem.1 (by rwa [inRanges_singletons] at hx))
    have hchk := fun ht => by simpa only [testBit_maskOf] using List.all_eq_true.1 h p (mem_touching hp ht)
    simp only [mapGet_single_none]
    cases h1 : inRanges (singletons (keys1 R)) p.1 with
    | true =>
      have := hchk (Or.inl (key _ h1))
      rw [if_pos h1, decide_eq_true_eq] at this
      exact ⟨fun hc => Bool.noConfusion hc, this⟩
    | false =>
      cases h2 : inRanges (singletons (keys1 R)) p.2 with
      | true =>
        have := hchk (Or.inr (key _ h2))
        rw [h1, h2] at this
        cases this
      | false =>
        refine ⟨fun _ => rfl, ?_⟩
        simp only [red1, (mapGet_single_none R _).2 h1, (mapGet_single_none R _).2 h2, Option.getD_none,
          List.map_cons, List.map_nil, he, hfix]
  · rw [he]; exact ⟨id, rfl⟩

theorem reduceCheck_srcLangs :
    srcLangs.all (fun L => reduceCheck (lowerFast uniLower) L.2.reduce
      (touching (srcLangs.flatMap (fun L => keys1 L.2.reduce)) uniLower)) = true := by
  decide +kernel

theorem reduceCheck_src {name : String} {T : LangTables} (hT : (name, T) ∈ srcLangs) (c : Nat) :
    (mapGet T.reduce [c] = none → mapGet T.reduce [lowerLookup uniLower c] = none) ∧
    (red1 T.reduce c).map (lowerLookup uniLower) =
      (red1 T.reduce (lowerLookup uniLower c)).map (lowerLookup uniLower) := by
  have h := List.all_eq_true.1 reduceCheck_srcLangs (name, T) hT
  rw [lowerFast_eq] at h
  exact reduceCheck_sound T.reduce uniLower _ (fun k hk => List.mem_flatMap.2 ⟨(name, T), hT, hk⟩) lower_idem_src h c

/-- **the reduce table of every generated language is closed under case** for the real oracle, at every `c`:
    folding a character and folding its lower-case form give the same characters up to case -/
theorem caseClosed_src {name : String} {T : LangTables} (hT : (name, T) ∈ srcLangs) (c : Nat) :
    (red1 T.reduce c).map srcUnicode.lower1 = (red1 T.reduce (srcUnicode.lower1 c)).map srcUnicode.lower1 :=
  (reduceCheck_src hT c).2

/-- `LowerKeyFree` for the real Unicode oracle and any generated language table: lower-casing a character that
    the reduce table leaves alone never yields a reduce-table key (needed by the restricted `StemHyp`) -/
theorem lowerKeyFree_std {name : String} {T : LangTables} (hT : (name, T) ∈ srcLangs) (stem : List Nat → Nat) :
    LowerKeyFree (srcProg.env srcUnicode T stem) := fun c =>
  (reduceCheck_src hT c).1

theorem caseClosedOn_src (E : Env) (hU : E.U = srcUnicode) {name : String} (hT : (name, E.T) ∈ srcLangs)
    (cs : List Nat) : CaseClosedOn E cs := by
  intro c _
  rw [hU]
  exact caseClosed_src hT c

theorem caseClosed_none (stem : List Nat → Nat) (cs : List Nat) :
    CaseClosedOn (srcProg.env srcUnicode lang_none stem) cs := caseClosedOn_src _ rfl (name := "none") (.head _) cs
theorem caseClosed_de (stem : List Nat → Nat) (cs : List Nat) :
    CaseClosedOn (srcProg.env srcUnicode lang_de stem) cs := caseClosedOn_src _ rfl (name := "de") (.tail _ (.head _)) cs
theorem caseClosed_en (stem : List Nat → Nat) (cs : List Nat) :
    CaseClosedOn (srcProg.env srcUnicode lang_en stem) cs := caseClosedOn_src _ rfl (name := "en") (.tail _ (.tail _ (.head _))) cs
theorem caseClosed_es (stem : List Nat → Nat) (cs : List Nat) :
    CaseClosedOn (srcProg.env srcUnicode lang_es stem) cs := caseClosedOn_src _ rfl (name := "es") (.tail _ (.tail _ (.tail _ (.head _)))) cs
theorem caseClosed_fr (stem : List Nat → Nat) (cs : List Nat) :
    CaseClosedOn (srcProg.env srcUnicode lang_fr stem) cs := caseClosedOn_src _ rfl (name := "fr") (.tail _ (.tail _ (.tail _ (.tail _ (.head _))))) cs
theorem caseClosed_pt (stem : List Nat → Nat) (cs : List Nat) :
    CaseClosedOn (srcProg.env srcUnicode lang_pt stem) cs := caseClosedOn_src _ rfl (name := "pt") (.tail _ (.tail _ (.tail _ (.tail _ (.tail _ (.head _)))))) cs
theorem caseClosed_ru (stem : List Nat → Nat) (cs : List Nat) :
    CaseClosedOn (srcProg.env srcUnicode lang_ru stem) cs := caseClosedOn_src _ rfl (name := "ru") (.tail _ (.tail _ (.tail _ (.tail _ (.tail _ (.tail _ (.head _))))))) cs

/-- `srcUnicode` with every table as a bit mask and the scan of the lower-case map skipped for non-keys: what the
    kernel evaluates in place of `srcUnicode` where the oracle is run on concrete characters (a character that
    `to_lowercase` leaves alone otherwise costs a walk through all 1488 pairs) -/
def fastUnicode : Unicode :=
  { isAlphabetic := (maskOf uniAlpha).testBit, isNumeric := (maskOf uniNumeric).testBit,
    isWhitespace := (maskOf uniWhite).testBit, isControl := (maskOf uniControl).testBit,
    isUppercase := (maskOf uniUpper).testBit, lower1 := lowerFast uniLower }

theorem srcUnicode_eq_fast : srcUnicode = fastUnicode := by
  simp only [srcUnicode, fastUnicode, lowerFast_eq, funext (testBit_maskOf _)]

/-- ℂ, ℋ, 𝐀 (letters of category Lu without a lower-case mapping) and 🄰 (`Other_Uppercase`) -/
theorem D4_examples : ∀ c ∈ [0x2102, 0x210B, 0x1D400, 0x1F130],
    srcUnicode.isUppercase c = true ∧ srcUnicode.lower1 c = c := by
  rw [srcUnicode_eq_fast]; decide +kernel

/-- **Finding D4**: `std` has characters that are `is_uppercase` and that `to_lowercase` leaves alone
    (U+2102 ℂ, U+1F130 🄰, …), so "a tokenised word contains no upper-case character" is false for Rust's `std`. -/
theorem D4_upper_without_lower : ∃ c, srcUnicode.isUppercase c = true ∧ srcUnicode.lower1 c = c :=
  ⟨0x2102, D4_examples _ List.mem_cons_self⟩

/-- **Premise of finding D5**: `std` has characters that are not `is_uppercase` and that `to_lowercase` changes
    (the title-case digraph U+01C5 ǅ ↦ U+01C6 ǆ), so lower-casing only the upper-case characters is not
    lower-casing. -/
theorem D5_lower_changes_non_upper : ∃ c, srcUnicode.isUppercase c = false ∧ srcUnicode.lower1 c ≠ c :=
  ⟨453, by decide +kernel⟩

abbrev stdEnv (T : LangTables) (stem : List Nat → Nat) : Env := Gen.srcProg.env Gen.srcUnicode T stem


end Lucid
