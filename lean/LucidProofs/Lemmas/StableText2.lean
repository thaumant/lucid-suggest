/-
  LucidProofs.Lemmas.StableText2 — two stable words typed with ONE separator between them.

  For `Stable` character lists `a`, `b` (`Lemmas/StableText.lean`) and a separator character `sep` that is its
  own lower-case form and occurs in no key of the language's compose / reduce tables (`SepFreeTables`),
  `tokenize_query` of the typed string `a ++ [sep] ++ b` is computed exactly (`tokenizeQuery_split`): the two
  words `(0, |a|)` (finished) and `(|a|+1, |a|+1+|b|)` (unfinished) over the unchanged characters, the class of
  the separator position being `classOf E sep`. This discharges the tokenizer premises of the split-spelling
  theorem `C14_split_found_tokenized` (`C14.lean`); the typed-string forms are in `C14b.lean`.
-/
import LucidProofs.Lemmas.StableText

namespace Lucid

def sepFree (m : List (List Nat × List Nat)) (sep : Nat) : Bool := m.all (fun e => !(e.1.contains sep))

def SepFreeTables (T : LangTables) (sep : Nat) : Bool := sepFree T.compose sep && sepFree T.reduce sep

theorem noKeyChar_of_sepFree {m : List (List Nat × List Nat)} {sep : Nat} (hm : sepFree m sep = true) :
    NoKeyChar m [sep] := by
  intro c hc e he
  rw [List.mem_singleton.1 hc]
  simpa using List.all_eq_true.1 hm e he

theorem compose_append_sep (T : LangTables) (sep : Nat) (hT : SepFreeTables T sep = true) (a b : List Nat)
    (ha : compose T a = a) (hb : compose T b = b) : compose T (a ++ sep :: b) = a ++ sep :: b := by
  simp only [SepFreeTables, Bool.and_eq_true] at hT
  simp only [compose] at *
  rw [composeWith_append_noKey _ _ (noKeyChar_of_sepFree hT.1), ha, hb]

theorem reduce_append_sep (T : LangTables) (sep : Nat) (hT : SepFreeTables T sep = true) (a b : List Nat)
    (ha : reduce T a = none) (hb : reduce T b = none) : reduce T (a ++ sep :: b) = none := by
  simp only [SepFreeTables, Bool.and_eq_true] at hT
  simp only [reduce, reduceWith_none_iff] at *
  rw [composeWith_append_noKey _ _ (noKeyChar_of_sepFree hT.2), ha, hb]

def splitW0 (E : Env) (a : List Nat) : WordShape :=
  { offset := 0, lo := 0, hi := a.length, stem := if E.T.stemmer then E.stem a else a.length,
    pos := getPos E.T a, fin := true }

def splitW1 (E : Env) (a b : List Nat) : WordShape :=
  { offset := 1, lo := a.length + 1, hi := a.length + 1 + b.length,
    stem := if E.T.stemmer then E.stem b else b.length, pos := getPos E.T b, fin := false }

/-- the result of the query pipeline on `a ++ [sep] ++ b` -/
def splitText (E : Env) (a : List Nat) (sep : Nat) (b : List Nat) : Text :=
  { words := [splitW0 E a, splitW1 E a b], source := a ++ sep :: b, chars := a ++ sep :: b,
    classes := (a ++ sep :: b).map (classOf E) }

theorem slice_two_left (a : List Nat) (sep : Nat) (b : List Nat) : slice (a ++ sep :: b) 0 a.length = a := by
  rw [slice_append_left _ _ _ _ (Nat.le_refl _), slice_full]

theorem slice_two_right (a : List Nat) (sep : Nat) (b : List Nat) :
    slice (a ++ sep :: b) (a.length + 1) (a.length + 1 + b.length) = b := by
  have := slice_append_right (a ++ [sep]) b 0 b.length
  simpa [slice_full, Nat.add_comm] using this

theorem tokenizeQuery_split (E : Env) (a : List Nat) (sep : Nat) (b : List Nat)
    (ha : Stable E a) (hb : Stable E b) (hsep : isSepChar E.U E.K sep = true) (hlow : E.U.lower1 sep = sep)
    (hT : SepFreeTables E.T sep = true) :
    tokenizeQuery Gen.srcProg E (a ++ sep :: b) = splitText E a sep b := by
  obtain ⟨e1, e2⟩ := normChars_of_fixed E _ (compose_append_sep E.T sep hT a b ha.compose_id hb.compose_id)
    (reduce_append_sep E.T sep hT a b ha.reduce_none hb.reduce_none)
  have hl : (a ++ sep :: b).map E.U.lower1 = a ++ sep :: b := by
    simp [map_lower_fixed E a ha.lower_fixed, map_lower_fixed E b hb.lower_fixed, hlow]
  rw [tokenizeQuery_eq, e1, e2, tokText, hl, wordSpans_append_sep E false a sep b hsep, wordSpans_stable E true a ha,
    wordSpans_stable E false b hb]
  have e3 : b.length + (a.length + 1) = a.length + 1 + b.length := by omega
  simp [Span.shift, Span.toWord, e3, slice_two_left, slice_two_right, splitText, splitW0, splitW1]

theorem splitText_words (E : Env) (a : List Nat) (sep : Nat) (b : List Nat) :
    (splitText E a sep b).words = [splitW0 E a, splitW1 E a b] := rfl
theorem splitText_chars (E : Env) (a : List Nat) (sep : Nat) (b : List Nat) :
    (splitText E a sep b).chars = a ++ sep :: b := rfl
theorem wchars_splitText_0 (E : Env) (a : List Nat) (sep : Nat) (b : List Nat) :
    wchars (splitText E a sep b) (splitW0 E a) = a := slice_two_left a sep b
theorem wchars_splitText_1 (E : Env) (a : List Nat) (sep : Nat) (b : List Nat) :
    wchars (splitText E a sep b) (splitW1 E a b) = b := slice_two_right a sep b

/-- Oracle hypothesis about Rust's `std` on U+0020: it is whitespace and `to_lowercase` leaves it alone. -/
structure SpaceFacts (U : Unicode) : Prop where
  space_ws    : U.isWhitespace 32 = true
  space_lower : U.lower1 32 = 32

theorem SpaceFacts.sep {U : Unicode} (h : SpaceFacts U) (K : Consts) : isSepChar U K 32 = true := by
  simp [isSepChar, h.space_ws]

/-- the space occurs in no key of the language's normalisation tables and has no consonant/vowel class -/
def SpaceFreeTables (T : LangTables) : Bool := SepFreeTables T 32 && (getCharClass T 32).isNone

theorem spaceFree_none : SpaceFreeTables Gen.lang_none = true := by decide +kernel
theorem spaceFree_de : SpaceFreeTables Gen.lang_de = true := by decide +kernel
theorem spaceFree_en : SpaceFreeTables Gen.lang_en = true := by decide +kernel
theorem spaceFree_es : SpaceFreeTables Gen.lang_es = true := by decide +kernel
theorem spaceFree_fr : SpaceFreeTables Gen.lang_fr = true := by decide +kernel
theorem spaceFree_pt : SpaceFreeTables Gen.lang_pt = true := by decide +kernel
theorem spaceFree_ru : SpaceFreeTables Gen.lang_ru = true := by decide +kernel

theorem toyU_spaceFacts : SpaceFacts toyU := ⟨by decide, by decide⟩

/-! ### non-vacuity -/

example : (tokenizeQuery Gen.srcProg (toyEnv Gen.lang_en) [97, 98, 32, 99, 100]).words =
    [{ offset := 0, lo := 0, hi := 2, stem := 1, pos := none, fin := true },
     { offset := 1, lo := 3, hi := 5, stem := 1, pos := none, fin := false }] := by
  rw [show ([97, 98, 32, 99, 100] : List Nat) = [97, 98] ++ 32 :: [99, 100] from rfl,
    tokenizeQuery_split _ _ _ _ (by decide +kernel) (by decide +kernel) (by decide +kernel) (by decide +kernel)
      (by decide +kernel)]
  decide +kernel

end Lucid
