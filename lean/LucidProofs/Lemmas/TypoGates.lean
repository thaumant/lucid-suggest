/-
  LucidProofs.Lemmas.TypoGates — the two gates and the two slice loops of `word_match`
  (`matching/word.rs`, model `Lucid.wordMatch`) let through an unfinished query word that is a record word
  of at least five characters (three of them distinct) with ONE typing error (`Edit1`, `Lemmas/Edit1.lean`):
  `word_match` returns a pair (`wordMatch_edit1_ne_none`), since the pair of FULL slices `(|w'|, |w|)` is admitted,
  its distance being at most one full-cost typo (`DL.D_edit1_le`).
  Numeric hypotheses: `CostsOK K` (edit costs) and `TypoNumsOK K` (thresholds), both decided at `Gen.srcConsts`.
-/
import LucidProofs.Lemmas.Gates
import LucidProofs.Lemmas.Edit1

namespace Lucid
open DL

/-- what one typing error needs of the three thresholds:
    * `1/6 < LENGTH_THRESHOLD`   — one extra character is tolerated from length 5 on (6 against 5);
    * `2/4 < JACCARD_THRESHOLD`  — two sets of ≥ 3 characters that differ by one element each way are similar enough;
    * `1.0/5 ≤ DAMLEV_THRESHOLD` — one full-cost typo is within the relative distance threshold from length 5 on. -/
def TypoNumsOK (K : Consts) : Bool :=
  decide (K.lenDen * 1 < K.lenNum * 6) && decide (K.jacDen * 2 < K.jacNum * 4) &&
  decide (K.damDen * 10 ≤ K.damNum * 10 * 5)

theorem typoNumsOK_src : TypoNumsOK Gen.srcConsts = true := by decide

theorem typoNumsOK_spec {K : Consts} (h : TypoNumsOK K = true) :
    K.lenDen < K.lenNum * 6 ∧ K.jacDen * 2 < K.jacNum * 4 ∧ K.damDen * 10 ≤ K.damNum * 10 * 5 := by
  simp only [TypoNumsOK, Bool.and_eq_true, decide_eq_true_eq] at h
  omega

theorem lengthCheck_near (K : Consts) (hT : TypoNumsOK K = true) (r q : WordShape)
    (hfin : q.fin = false) (hr5 : 5 ≤ r.len) (h1 : q.len ≤ r.len + 1) (h2 : r.len ≤ q.len + 1) :
    lengthCheck K r q = true :=
  lengthCheck_of_near K 6 (by have := typoNumsOK_spec hT; omega) r q (by omega) (by omega) h1 h2
    (fun h => by rcases h with h | h; omega; simp [hfin] at h)

theorem jaccardCheck_edit1 (K : Consts) (hT : TypoNumsOK K = true) (rt : Text) (r : WordShape) (qt : Text)
    (q : WordShape) (hr : WordIn rt r) (hq : WordIn qt q) (h3 : 3 ≤ distinctCard (wchars rt r))
    (hed : Edit1 (wchars rt r) (wchars qt q)) : jaccardCheck K rt r qt q = true := by
  have hge := hed.length_ge
  rw [wchars_length hr, wchars_length hq] at hge
  obtain ⟨ca, hab⟩ := hed.extra_left
  obtain ⟨cb, hba⟩ := hed.extra_right
  rw [jaccardCheck_iff, jaccardSlice_full rt r q (wchars_length hr) hge]
  exact jaccard_pass K (by have := typoNumsOK_spec hT; omega) (wchars rt r) (wchars qt q) (wchars_ne_nil hr)
    (wchars_ne_nil hq) 1 1 (diffCard_le_one _ _ ca hab) (diffCard_le_one _ _ cb hba) (Or.inl h3)

theorem wordMatch_edit1_ne_none (K : Consts) (hK : CostsOK K = true) (hT : TypoNumsOK K = true)
    (rt : Text) (r : WordShape) (qt : Text) (q : WordShape) (hr : WordIn rt r) (hq : WordIn qt q)
    (hfin : q.fin = false) (hstem : q.stem ≤ q.len)
    (h5 : 5 ≤ r.len) (h3 : 3 ≤ distinctCard (wchars rt r))
    (hed : Edit1 (wchars rt r) (wchars qt q)) :
    wordMatch K rt r qt q ≠ none := by
  have hle := hed.length_le
  have hge := hed.length_ge
  rw [wchars_length hr, wchars_length hq] at hle hge
  obtain ⟨_, _, hd⟩ := typoNumsOK_spec hT
  have hD : sliceDist K rt r qt q q.len r.len ≤ 10 := by
    have := D_edit1_le K (KOK_of_CostsOK K hK) (cword K qt q) (cword K rt r) (cword_costLe K hK qt q)
      (cword_costLe K hK rt r) hed
    rwa [cword_len_of_wordIn K hq, cword_len_of_wordIn K hr] at this
  have hleft : wmLeftRaw r q = q.stem := by simp [wmLeftRaw, hfin]
  refine wordMatch_ne_none hK hr hq (lengthCheck_near K hT r q hfin h5 hle hge)
    (jaccardCheck_edit1 K hT rt r qt q hr hq h3 hed) (rs := r.len) (qs := q.len)
    ⟨Nat.le_refl _, Nat.le_refl _, hstem, by omega, by simp [hfin], ⟨hge, hle⟩, ?_⟩
  exact relTooBig_of_le K 10 5 hd hD (by omega)

end Lucid
