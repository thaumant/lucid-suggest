/-
  LucidProofs.Lemmas.WordMatchLoop — what the two slice loops of `word_match` (`Lucid.wmInner`, `Lucid.wmOuter`)
  compute: among the pairs `(rslice, qslice)` that pass every guard (`Adm`), taken in scan order, the FIRST one of
  least distance (`firstMin`; `wmOuter_none`). The guards are walked once, in `wmInner_eq_foldl`; everything else
  is about lists.
-/
import LucidModel.WordMatch

namespace Lucid

section firstMin
variable {α : Type} (key : α → Nat)

/-- the incumbent stays unless the newcomer is strictly smaller -/
def keepMin (best : Option α) (x : α) : Option α :=
  match best with
  | some p => if key p ≤ key x then some p else some x
  | none => some x

def firstMin (xs : List α) : Option α := xs.foldl (keepMin key) none

theorem foldl_keepMin_keep (x : α) (xs : List α) (h : ∀ y ∈ xs, key x ≤ key y) :
    xs.foldl (keepMin key) (some x) = some x := by
  induction xs with
  | nil => rfl
  | cons y ys ih =>
    rw [List.foldl_cons, keepMin, if_pos (h y (by simp))]
    exact ih (fun z hz => h z (by simp [hz]))

theorem keepMin_spec (b : Option α) (y : α) : ∃ z, keepMin key b y = some z ∧ (b = some z ∨ z = y) ∧
    key z ≤ key y ∧ ∀ p, b = some p → key z ≤ key p := by
  cases b with
  | none => exact ⟨y, rfl, .inr rfl, Nat.le_refl _, by simp⟩
  | some p =>
    by_cases hp : key p ≤ key y
    · exact ⟨p, if_pos hp, .inl rfl, hp, fun _ e => by cases e; exact Nat.le_refl _⟩
    · exact ⟨y, if_neg hp, .inr rfl, Nat.le_refl _, fun _ e => by cases e; omega⟩

theorem foldl_keepMin_mem (xs : List α) (b : Option α) (x : α) (h : xs.foldl (keepMin key) b = some x) :
    (b = some x ∨ x ∈ xs) ∧ (∀ p, b = some p → key x ≤ key p) ∧ ∀ y ∈ xs, key x ≤ key y := by
  induction xs generalizing b with
  | nil => exact ⟨Or.inl h, fun p hp => by cases h.symm.trans hp; exact Nat.le_refl _, by simp⟩
  | cons y ys ih =>
    obtain ⟨h1, h2, h3⟩ := ih _ h
    obtain ⟨z, hz, hzb, hzy, hzp⟩ := keepMin_spec key b y
    have hxz := h2 z hz
    refine ⟨?_, fun p hp => Nat.le_trans hxz (hzp p hp), fun w hw => ?_⟩
    · rcases h1 with h1 | h1
      · cases hz.symm.trans h1
        exact hzb.imp id fun e => List.mem_cons.mpr (Or.inl e)
      · exact Or.inr (List.mem_cons_of_mem _ h1)
    · rcases List.mem_cons.mp hw with rfl | hw
      · exact Nat.le_trans hxz hzy
      · exact h3 w hw

theorem firstMin_eq_none {xs : List α} : firstMin key xs = none ↔ xs = [] := by
  cases xs with
  | nil => simp [firstMin]
  | cons y ys =>
    simp only [firstMin, List.foldl_cons, keepMin, reduceCtorEq, iff_false]
    intro h
    have : ∀ (zs : List α) (p : α), zs.foldl (keepMin key) (some p) ≠ none := by
      intro zs
      induction zs with
      | nil => simp
      | cons z zs ih => intro p; rw [List.foldl_cons, keepMin]; split <;> exact ih _
    exact this ys y h

theorem firstMin_mem {xs : List α} {x : α} (h : firstMin key xs = some x) : x ∈ xs ∧ ∀ y ∈ xs, key x ≤ key y := by
  obtain ⟨h1, _, h3⟩ := foldl_keepMin_mem key xs none x h
  exact ⟨h1.resolve_left (by simp), h3⟩

theorem firstMin_eq_some (pre post : List α) (x : α) (hpre : ∀ y ∈ pre, key x < key y)
    (hpost : ∀ y ∈ post, key x ≤ key y) : firstMin key (pre ++ x :: post) = some x := by
  rw [firstMin, List.foldl_append, List.foldl_cons]
  have hk : keepMin key (pre.foldl (keepMin key) none) x = some x := by
    cases hb : pre.foldl (keepMin key) none with
    | none => rfl
    | some p =>
      have := hpre p (firstMin_mem key hb).1
      rw [keepMin, if_neg (by omega)]
  rw [hk]
  exact foldl_keepMin_keep key x post hpost

theorem firstMin_eq_some_of_pairwise {lt : α → α → Prop} {xs : List α} (hs : xs.Pairwise lt) {x : α} (hx : x ∈ xs)
    (hmin : ∀ y ∈ xs, key x ≤ key y) (hfirst : ∀ y ∈ xs, lt y x → key x < key y) : firstMin key xs = some x := by
  obtain ⟨pre, post, rfl⟩ := List.append_of_mem hx
  rw [List.pairwise_append] at hs
  exact firstMin_eq_some key pre post x
    (fun y hy => hfirst y (by simp [hy]) (hs.2.2 y hy x (by simp)))
    (fun y hy => hmin y (by simp [hy]))

theorem foldl_keepMin_map {β : Type} (f : β → α) (xs : List β) (b : Option β) :
    (xs.map f).foldl (keepMin key) (b.map f) = (xs.foldl (keepMin (fun y => key (f y))) b).map f := by
  induction xs generalizing b with
  | nil => rfl
  | cons y ys ih =>
    rw [List.map_cons, List.foldl_cons, List.foldl_cons, ← ih]
    congr 1
    cases b with
    | none => rfl
    | some p => simp only [keepMin, Option.map_some]; split <;> rfl

end firstMin

/-- the pair `(rs, qs)` passes every guard of the two loops: the four `continue`s on the slice lengths and the stem,
    the `break` on the record stem, the `continue`s on the length difference and on the relative distance.
    The parameters are the fields of a `WMCtx` (`WMCtx.Adm`), so that for a context written out as a structure
    instance the fields speak of its components directly. -/
structure Adm (K : Consts) (r q : WordShape) (left : Nat) (cell : Nat → Nat → Nat) (rs qs : Nat) : Prop where
  q_le  : qs ≤ q.len
  r_le  : rs ≤ r.len
  stem  : q.stem ≤ qs
  left  : ¬ (rs = left ∧ qs = left)
  nobrk : ¬ (q.fin = true ∧ rs < r.stem)
  near  : rs ≤ qs + 1 ∧ qs ≤ rs + 1
  rel   : relTooBig K (cell qs rs) qs rs = false

instance (K : Consts) (r q : WordShape) (left : Nat) (cell : Nat → Nat → Nat) (rs qs : Nat) :
    Decidable (Adm K r q left cell rs qs) :=
  decidable_of_iff (qs ≤ q.len ∧ rs ≤ r.len ∧ q.stem ≤ qs ∧ ¬ (rs = left ∧ qs = left) ∧
      ¬ (q.fin = true ∧ rs < r.stem) ∧ (rs ≤ qs + 1 ∧ qs ≤ rs + 1) ∧ relTooBig K (cell qs rs) qs rs = false)
    ⟨fun ⟨a, b, c, d, e, f, g⟩ => ⟨a, b, c, d, e, f, g⟩, fun ⟨a, b, c, d, e, f, g⟩ => ⟨a, b, c, d, e, f, g⟩⟩

abbrev WMCtx.Adm (c : WMCtx) (rs qs : Nat) : Prop := Lucid.Adm c.K c.r c.q c.left c.cell rs qs

/-- `new_pair` for the slices `x = (rs, qs)`, the typos being the cell read for them -/
def pairAt (c : WMCtx) (x : Nat × Nat) : WMatch × WMatch := newPair c.K c.r c.q x.1 x.2 (c.cell x.2 x.1)

/-- the admitted pairs in the order the loops visit them -/
def wmCands (c : WMCtx) (range l : List Nat) : List (Nat × Nat) :=
  l.flatMap fun rs => (range.filter fun qs => c.Adm rs qs).map fun qs => (rs, qs)

theorem mem_wmCands {c : WMCtx} {range l : List Nat} {x : Nat × Nat} :
    x ∈ wmCands c range l ↔ x.1 ∈ l ∧ x.2 ∈ range ∧ c.Adm x.1 x.2 := by
  obtain ⟨rs, qs⟩ := x
  simp only [wmCands, List.mem_flatMap, List.mem_map, List.mem_filter, decide_eq_true_eq, Prod.mk.injEq]
  constructor
  · rintro ⟨_, h1, _, ⟨h2, h3⟩, rfl, rfl⟩; exact ⟨h1, h2, h3⟩
  · rintro ⟨h1, h2, h3⟩; exact ⟨rs, h1, qs, ⟨h2, h3⟩, rfl, rfl⟩

theorem WMCtx.Adm.of_guards {c : WMCtx} {rs qs : Nat} (h1 : ¬ qs > c.q.len) (h2 : ¬ rs > c.r.len)
    (h3 : ¬ qs < c.q.stem) (h4 : ¬ (rs = c.left ∧ qs = c.left)) (h5 : ¬ (c.q.fin = true ∧ rs < c.r.stem))
    (h6 : ¬ (if qs ≥ rs then qs - rs else rs - qs) > 1) (h7 : ¬ relTooBig c.K (c.cell qs rs) qs rs = true) :
    c.Adm rs qs :=
  ⟨Nat.le_of_not_gt h1, Nat.le_of_not_gt h2, Nat.le_of_not_lt h3, h4, h5, by split at h6 <;> omega,
    by simpa using h7⟩

theorem filter_adm_of {c : WMCtx} {rs qs : Nat} (h : c.Adm rs qs) (rest : List Nat) :
    ((qs :: rest).filter fun qs => c.Adm rs qs) = qs :: rest.filter fun qs => c.Adm rs qs :=
  List.filter_cons_of_pos (decide_eq_true h)

theorem filter_adm_of_not {c : WMCtx} {rs qs : Nat} (h : ¬ c.Adm rs qs) (rest : List Nat) :
    ((qs :: rest).filter fun qs => c.Adm rs qs) = rest.filter fun qs => c.Adm rs qs :=
  List.filter_cons_of_neg (mt of_decide_eq_true h)

/-- The inner loop is a fold over the admitted slices. The two early exits change nothing: the `break` guard
    depends on `rs` only, so when it fires no slice of this round is admitted; and after a zero-distance pair the
    incumbent has no typos and cannot be replaced. -/
theorem wmInner_eq_foldl (c : WMCtx) (rs : Nat) (l : List Nat) (best : Option (WMatch × WMatch)) :
    wmInner c rs l best =
      ((l.filter fun qs => c.Adm rs qs).map fun qs => pairAt c (rs, qs)).foldl (keepMin (·.1.typos)) best := by
  fun_induction wmInner c rs l best
  case case1 => rfl
  case case2 h ih => rw [filter_adm_of_not fun a => absurd a.q_le (Nat.not_le.mpr h)]; exact ih
  case case3 h ih => rw [filter_adm_of_not fun a => absurd a.r_le (Nat.not_le.mpr h)]; exact ih
  case case4 h ih => rw [filter_adm_of_not fun a => absurd a.stem (Nat.not_le.mpr h)]; exact ih
  case case5 h ih => rw [filter_adm_of_not fun a => a.left h]; exact ih
  case case6 h =>
    rw [List.filter_eq_nil_iff.mpr fun x _ => mt of_decide_eq_true fun a : c.Adm rs x => a.nobrk h]; rfl
  case case7 h ih =>
    rw [filter_adm_of_not fun a => by have := a.near; split at h <;> omega]; exact ih
  case case8 h ih => rw [filter_adm_of_not fun a => Bool.noConfusion (a.rel.symm.trans h)]; exact ih
  case case9 qs rest best h1 h2 h3 h4 h5 h6 dist h7 best' h8 =>
    have hk : best' = keepMin (·.1.typos) best (pairAt c (rs, qs)) := by cases best <;> rfl
    rw [filter_adm_of (.of_guards h1 h2 h3 h4 h5 h6 h7), List.map_cons, List.foldl_cons, ← hk]
    obtain ⟨p, hp, _, hle, _⟩ := keepMin_spec (·.1.typos) best (pairAt c (rs, qs))
    have h0 : p.1.typos = 0 := Nat.le_zero.mp (h8 ▸ hle)
    rw [hk.trans hp, foldl_keepMin_keep _ p _ (fun _ _ => h0 ▸ Nat.zero_le _)]
  case case10 qs rest best h1 h2 h3 h4 h5 h6 dist h7 best' h8 ih =>
    have hk : best' = keepMin (·.1.typos) best (pairAt c (rs, qs)) := by cases best <;> rfl
    rw [filter_adm_of (.of_guards h1 h2 h3 h4 h5 h6 h7), List.map_cons, List.foldl_cons, ← hk]
    exact ih

theorem wmOuter_eq_foldl (c : WMCtx) (range l : List Nat) (best : Option (WMatch × WMatch)) :
    wmOuter c range l best = ((wmCands c range l).map (pairAt c)).foldl (keepMin (·.1.typos)) best := by
  induction l generalizing best with
  | nil => rfl
  | cons rs rest ih =>
    rw [wmOuter, ih, wmInner_eq_foldl, wmCands, wmCands, List.flatMap_cons, List.map_append, List.foldl_append,
      List.map_map]
    rfl

theorem wmOuter_none (c : WMCtx) (range l : List Nat) :
    wmOuter c range l none = (firstMin (fun x => c.cell x.2 x.1) (wmCands c range l)).map (pairAt c) :=
  (wmOuter_eq_foldl c range l none).trans (foldl_keepMin_map (·.1.typos) (pairAt c) _ none)

/-- two runs of the loops that admit the same slices (the guards cannot tell `q'` from `q`, and the cells agree
    where they are read) and build pairs related by a map `f` that keeps the typos return `f`-related results -/
theorem wmOuter_map (f : WMatch × WMatch → WMatch × WMatch) (hty : ∀ p, (f p).1.typos = p.1.typos)
    (K : Consts) (r q q' : WordShape) (left : Nat) (cell cell' : Nat → Nat → Nat)
    (hlen : q'.len = q.len) (hstem : q'.stem = q.stem) (hfin : q'.fin = q.fin)
    (hcell : ∀ qs rs, qs ≤ q.len → rs ≤ r.len → cell' qs rs = cell qs rs)
    (hnew : ∀ rs qs t, newPair K r q' rs qs t = f (newPair K r q rs qs t)) (range l : List Nat) :
    wmOuter ⟨K, r, q', left, cell'⟩ range l none = (wmOuter ⟨K, r, q, left, cell⟩ range l none).map f := by
  have hadm : ∀ rs qs, Adm K r q' left cell' rs qs ↔ Adm K r q left cell rs qs := fun rs qs =>
    ⟨fun ⟨a1, a2, a3, a4, a5, a6, a7⟩ =>
      ⟨hlen ▸ a1, a2, hstem ▸ a3, a4, hfin ▸ a5, a6, hcell qs rs (hlen ▸ a1) a2 ▸ a7⟩,
     fun ⟨a1, a2, a3, a4, a5, a6, a7⟩ =>
      ⟨hlen.symm ▸ a1, a2, hstem.symm ▸ a3, a4, hfin.symm ▸ a5, a6, (hcell qs rs a1 a2).symm ▸ a7⟩⟩
  have hc : wmCands ⟨K, r, q', left, cell'⟩ range l = wmCands ⟨K, r, q, left, cell⟩ range l := by
    simp only [wmCands, WMCtx.Adm, hadm]
  have hm : (wmCands ⟨K, r, q, left, cell⟩ range l).map (pairAt ⟨K, r, q', left, cell'⟩) =
      ((wmCands ⟨K, r, q, left, cell⟩ range l).map (pairAt ⟨K, r, q, left, cell⟩)).map f := by
    rw [List.map_map]
    refine List.map_congr_left fun x hx => ?_
    have ha : Adm K r q left cell x.1 x.2 := (mem_wmCands.mp hx).2.2
    simp only [pairAt, Function.comp, hcell x.2 x.1 ha.q_le ha.r_le, hnew]
  rw [wmOuter_eq_foldl, wmOuter_eq_foldl, hc, hm]
  have := foldl_keepMin_map (·.1.typos) f
    ((wmCands ⟨K, r, q, left, cell⟩ range l).map (pairAt ⟨K, r, q, left, cell⟩)) none
  simp only [hty] at this
  exact this

/-- scan order of the two loops over descending ranges -/
def ScanBefore (x y : Nat × Nat) : Prop := y.1 < x.1 ∨ x.1 = y.1 ∧ y.2 < x.2

theorem pairwise_wmCands (c : WMCtx) {range l : List Nat} (hr : range.Pairwise (· > ·)) (hl : l.Pairwise (· > ·)) :
    (wmCands c range l).Pairwise ScanBefore := by
  refine List.pairwise_flatMap.mpr ⟨fun rs _ => ?_, hl.imp fun {a b} hab x hx y hy => ?_⟩
  · exact List.pairwise_map.mpr ((hr.filter _).imp fun h => Or.inr ⟨rfl, h⟩)
  · obtain ⟨_, _, rfl⟩ := List.mem_map.mp hx
    obtain ⟨_, _, rfl⟩ := List.mem_map.mp hy
    exact Or.inl hab

theorem wmOuter_eq_none {c : WMCtx} {range l : List Nat} :
    wmOuter c range l none = none ↔ ∀ rs ∈ l, ∀ qs ∈ range, ¬ c.Adm rs qs := by
  rw [wmOuter_none, Option.map_eq_none_iff, firstMin_eq_none, List.eq_nil_iff_forall_not_mem]
  exact ⟨fun h rs hrs qs hqs ha => h (rs, qs) ((mem_wmCands (x := (rs, qs))).mpr ⟨hrs, hqs, ha⟩),
    fun h x hx => let ⟨h1, h2, h3⟩ := mem_wmCands.mp hx; h _ h1 _ h2 h3⟩

theorem wmOuter_some {c : WMCtx} {range l : List Nat} {p : WMatch × WMatch} (h : wmOuter c range l none = some p) :
    ∃ rs ∈ l, ∃ qs ∈ range, c.Adm rs qs ∧ p = pairAt c (rs, qs) ∧
      ∀ rs' ∈ l, ∀ qs' ∈ range, c.Adm rs' qs' → c.cell qs rs ≤ c.cell qs' rs' := by
  rw [wmOuter_none, Option.map_eq_some_iff] at h
  obtain ⟨⟨rs, qs⟩, hx, rfl⟩ := h
  obtain ⟨hm, hmin⟩ := firstMin_mem _ hx
  obtain ⟨h1, h2, h3⟩ := mem_wmCands.mp hm
  exact ⟨rs, h1, qs, h2, h3, rfl, fun rs' h1' qs' h2' h3' => hmin (rs', qs') ((mem_wmCands (x := (rs', qs'))).mpr ⟨h1', h2', h3'⟩)⟩

theorem wmOuter_eq_some {c : WMCtx} {range l : List Nat} (hr : range.Pairwise (· > ·)) (hl : l.Pairwise (· > ·))
    {rs qs : Nat} (hrs : rs ∈ l) (hqs : qs ∈ range) (ha : c.Adm rs qs)
    (hmin : ∀ rs' ∈ l, ∀ qs' ∈ range, c.Adm rs' qs' → c.cell qs rs ≤ c.cell qs' rs' ∧
      (ScanBefore (rs', qs') (rs, qs) → c.cell qs rs < c.cell qs' rs')) :
    wmOuter c range l none = some (pairAt c (rs, qs)) := by
  rw [wmOuter_none, firstMin_eq_some_of_pairwise _ (pairwise_wmCands c hr hl)
    ((mem_wmCands (x := (rs, qs))).mpr ⟨hrs, hqs, ha⟩)]
  · rfl
  · exact fun y hy => let ⟨h1, h2, h3⟩ := mem_wmCands.mp hy; (hmin _ h1 _ h2 h3).1
  · exact fun y hy => let ⟨h1, h2, h3⟩ := mem_wmCands.mp hy; (hmin _ h1 _ h2 h3).2

/-- the range both loops run over -/
def wmRange (r q : WordShape) : List Nat := descRange (wmLeftRaw r q - 1) (max q.len r.len + 1)

/-- the loops read the matrix that `distance(qword, rword)` leaves behind; the model's test for an empty range
    disappears, since on an empty range the loops return `none` -/
theorem wordMatchM_eq (K : Consts) (m : Mat) (rt : Text) (r : WordShape) (qt : Text) (q : WordShape) :
    wordMatchM K m rt r qt q =
      if q.len ≠ 0 ∧ r.len ≠ 0 ∧ lengthCheck K r q = true ∧ jaccardCheck K rt r qt q = true then
        (wmOuter ⟨K, r, q, wmLeftRaw r q - 1,
            fun qs rs => (distanceM K m (cword K qt q) (cword K rt r)).2.get (qs + 1) (rs + 1)⟩
          (wmRange r q) (wmRange r q) none,
         (distanceM K m (cword K qt q) (cword K rt r)).2)
      else (none, m) := by
  unfold wordMatchM
  by_cases h0 : q.len = 0 ∨ r.len = 0
  · rw [if_pos h0, if_neg fun h => h0.elim h.1 h.2.1]
  rw [if_neg h0]
  cases lengthCheck K r q
  · rw [if_pos (by rfl), if_neg (by simp)]
  cases jaccardCheck K rt r qt q
  · rw [if_neg (by simp), if_pos (by rfl), if_neg (by simp)]
  rw [if_neg (by simp), if_neg (by simp), if_pos ⟨fun e => h0 (.inl e), fun e => h0 (.inr e), rfl, rfl⟩]
  obtain ⟨_, m'⟩ := distanceM K m (cword K qt q) (cword K rt r)
  simp only []
  split
  · rename_i he
    rw [wmRange, descRange, Nat.sub_eq_zero_of_le he]; rfl
  · rfl

end Lucid
