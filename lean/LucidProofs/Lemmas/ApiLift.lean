/-
  LucidProofs.Lemmas.ApiLift — from the per-store theorems to the top-level API (`Registry.step` over raw
  strings). Everything here is glue: the state of an id is read off the call list.

  Three notions are "the last call of a kind" (`exists_last_split`): the last `create`/`destroy` of an id (is it live,
  and since when: by `proj_eq_some_iff` the projection `proj` of C20 is exactly "the calls addressed to `id` since its
  last `create`"), its last `run_search` (what the result buffer holds: `buffer_after_search`), its last `clearStore`
  = `using_store(id, |s| s.clear())` (which records it holds: `addedOf`, `store_fields`). The store of a live id is the
  stand-alone store run on those calls (`storeOpsOf`); it satisfies `StoreInv` and holds tokenised titles
  (`since_storeFacts`).
-/
import LucidProofs.C03b
import LucidProofs.C20

namespace Lucid

/-! ### the language environments -/

/-- every language environment uses the generated constants and meets the oracle / table hypotheses -/
structure EnvsOK (envs : Nat → Env) : Prop where
  consts  : ∀ l, (envs l).K = Gen.srcConsts
  unicode : ∀ l, UnicodeFacts (envs l).U Gen.srcConsts
  tables  : ∀ l, TablesOK (envs l).T = true
  stem    : ∀ l, StemHyp (envs l)

theorem env_eta (E : Env) (hK : E.K = Gen.srcConsts) : E = Gen.srcProg.env E.U E.T E.stem := by
  cases E; simp only [Prog.env] at hK ⊢; subst hK; rfl

theorem EnvsOK.record {envs : Nat → Env} (h : EnvsOK envs) (l : Nat) (s : List Nat) :
    TokInv (envs l) false s (tokenizeRecord Gen.srcProg (envs l) s) :=
  C15_record (envs l) (h.consts l) (h.unicode l) (h.tables l) (h.stem l) s

theorem EnvsOK.query {envs : Nat → Env} (h : EnvsOK envs) (l : Nat) (s : List Nat) :
    TokInv (envs l) true s (tokenizeQuery Gen.srcProg (envs l) s) :=
  C15_query (envs l) (h.consts l) (h.unicode l) (h.tables l) (h.stem l) s

/-! ### the calls addressed to an id since its creation -/

/-- the call neither destroys nor (re-)creates `id` (`clearStore id` keeps the id: same store entry, emptied) -/
def RegOp.keeps (id : Nat) : RegOp → Bool
  | .create j _ => j != id
  | .destroy j => j != id
  | _ => true

/-- the call neither destroys nor (re-)creates `id` nor runs a search on it (`clearStore id` is quiet: it leaves the
    result buffer alone) -/
def RegOp.quiet (id : Nat) : RegOp → Bool
  | .create j _ => j != id
  | .destroy j => j != id
  | .runSearch j _ => j != id
  | _ => true

theorem RegOp.keeps_of_quiet {id : Nat} {op : RegOp} (h : op.quiet id = true) : op.keeps id = true := by
  cases op <;> simp_all [RegOp.quiet, RegOp.keeps]

theorem RegOp.not_keeps {id : Nat} {op : RegOp} (h : op.keeps id = false) :
    (∃ l, op = .create id l) ∨ op = .destroy id := by
  cases op <;> simp_all [RegOp.keeps]

theorem RegOp.search_of_not_quiet {id : Nat} {op : RegOp} (hk : op.keeps id = true) (hq : op.quiet id = false) :
    ∃ q, op = .runSearch id q := by
  cases op <;> simp_all [RegOp.keeps, RegOp.quiet]

/-- what a call does to the store of `id` (texts tokenised for the language environment `E` of that store);
    `none` for calls on other ids and for `create` / `destroy` -/
def RegOp.toStoreOp? (P : Prog) (E : Env) (id : Nat) : RegOp → Option StoreOp
  | .highlightWith j l r => if j = id then some (.setDividers l r) else none
  | .addRecord j recId title rating => if j = id then some (.add recId (tokenizeRecord P E title) rating) else none
  | .setLimit j n => if j = id then some (.setLimit n) else none
  | .runSearch j q => if j = id then some (.search (tokenizeQuery P E q)) else none
  | .clearStore j => if j = id then some .clear else none
  | _ => none

/-- the calls of `post` addressed to `id`, as operations of a stand-alone store -/
def storeOpsOf (P : Prog) (E : Env) (id : Nat) (post : List RegOp) : List StoreOp :=
  post.filterMap (RegOp.toStoreOp? P E id)

theorem storeOpsOf_cons (P : Prog) (E : Env) (id : Nat) (op : RegOp) (post : List RegOp) :
    storeOpsOf P E id (op :: post) = (op.toStoreOp? P E id).toList ++ storeOpsOf P E id post := by
  unfold storeOpsOf
  rw [List.filterMap_cons]
  cases op.toStoreOp? P E id <;> rfl

theorem toStoreOp?_other (P : Prog) (E : Env) (id : Nat) (op : RegOp) (h : op.target ≠ id) :
    op.toStoreOp? P E id = none := by
  cases op <;> simp_all [RegOp.toStoreOp?, RegOp.target]

theorem toStoreOp?_eq_add (P : Prog) (E : Env) (id : Nat) (op : RegOp) (rid : Nat) (t : Text) (rating : Nat) :
    op.toStoreOp? P E id = some (.add rid t rating) ↔
      ∃ title, op = .addRecord id rid title rating ∧ t = tokenizeRecord P E title := by
  refine ⟨fun h => ?_, by rintro ⟨title, rfl, rfl⟩; exact if_pos rfl⟩
  cases op <;> dsimp only [RegOp.toStoreOp?] at h <;> (try split at h) <;> cases h
  subst_vars
  exact ⟨_, rfl, rfl⟩

theorem toStoreOp?_eq_search (P : Prog) (E : Env) (id : Nat) (op : RegOp) (q : Text) :
    op.toStoreOp? P E id = some (.search q) ↔ ∃ query, op = .runSearch id query ∧ q = tokenizeQuery P E query := by
  refine ⟨fun h => ?_, by rintro ⟨query, rfl, rfl⟩; exact if_pos rfl⟩
  cases op <;> dsimp only [RegOp.toStoreOp?] at h <;> (try split at h) <;> cases h
  subst_vars
  exact ⟨_, rfl, rfl⟩

theorem toStoreOp?_eq_clear (P : Prog) (E : Env) (id : Nat) (op : RegOp) :
    op.toStoreOp? P E id = some .clear ↔ op = .clearStore id := by
  refine ⟨fun h => ?_, by rintro rfl; exact if_pos rfl⟩
  cases op <;> dsimp only [RegOp.toStoreOp?] at h <;> (try split at h) <;> cases h
  subst_vars
  rfl

theorem add_mem_storeOpsOf (P : Prog) (E : Env) (id : Nat) (post : List RegOp) (rid : Nat) (t : Text) (rating : Nat)
    (h : StoreOp.add rid t rating ∈ storeOpsOf P E id post) :
    ∃ title, RegOp.addRecord id rid title rating ∈ post ∧ t = tokenizeRecord P E title := by
  obtain ⟨op, hm, hop⟩ := List.mem_filterMap.mp h
  obtain ⟨title, rfl, rfl⟩ := (toStoreOp?_eq_add P E id op rid t rating).mp hop
  exact ⟨title, hm, rfl⟩

theorem storeOpsOf_tokenized (P : Prog) (E : Env) (id : Nat) (post : List RegOp) (rid : Nat) (t : Text) (rating : Nat)
    (h : StoreOp.add rid t rating ∈ storeOpsOf P E id post) : ∃ s, t = tokenizeRecord P E s :=
  (add_mem_storeOpsOf P E id post rid t rating h).imp fun _ h => h.2

/-! ### `proj` is "the calls addressed to `id` since its last `create`" -/

theorem projStep_eq (P : Prog) (envs : Nat → Env) (id : Nat) (p : Option (Nat × List StoreOp)) (op : RegOp)
    (hk : op.keeps id = true) :
    projStep P envs id p op = p.map (fun x => (x.1, x.2 ++ (op.toStoreOp? P (envs x.1) id).toList)) := by
  by_cases ht : op.target = id
  · -- a call on `id` itself: not `create` / `destroy` by `hk`; for the others both sides append the same operation
    cases op <;> simp only [RegOp.target] at ht <;> subst ht <;> first
      | simp [RegOp.keeps] at hk; done
      | simp only [projStep, RegOp.target, RegOp.toStoreOp?, ne_eq, not_true_eq_false, if_false, if_true,
          Option.toList_some]
  · simp only [projStep, ne_eq, ht, not_false_eq_true, if_true, toStoreOp?_other P _ id op ht, Option.toList_none,
      List.append_nil, Option.map_id']

theorem projFrom_keeps (P : Prog) (envs : Nat → Env) (id : Nat) (post : List RegOp)
    (hk : ∀ op ∈ post, op.keeps id = true) (p : Option (Nat × List StoreOp)) :
    projFrom P envs id p post = p.map (fun x => (x.1, x.2 ++ storeOpsOf P (envs x.1) id post)) := by
  induction post generalizing p with
  | nil => cases p <;> simp [projFrom, storeOpsOf]
  | cons op post ih =>
    simp only [List.mem_cons, forall_eq_or_imp] at hk
    show projFrom P envs id (projStep P envs id p op) post = _
    rw [ih hk.2, projStep_eq P envs id p op hk.1]
    cases p <;> simp [storeOpsOf_cons]

theorem proj_append_cons (P : Prog) (envs : Nat → Env) (id : Nat) (a : List RegOp) (x : RegOp) (b : List RegOp) :
    proj P envs id (a ++ x :: b) = projFrom P envs id (projStep P envs id (proj P envs id a) x) b := by
  simp only [proj, projFrom, List.foldl_append, List.foldl_cons]

/-- **an id created at some point and neither destroyed nor re-created since is live**, and its projection is the
    list of calls addressed to it since then (no validity hypothesis needed) -/
theorem proj_since (P : Prog) (envs : Nat → Env) (id lang : Nat) (pre post : List RegOp)
    (hk : ∀ op ∈ post, op.keeps id = true) :
    proj P envs id (pre ++ RegOp.create id lang :: post) = some (lang, storeOpsOf P (envs lang) id post) := by
  rw [proj_append_cons, projFrom_keeps P envs id post hk]
  simp [projStep, RegOp.target]

/-- … and conversely: split the call list at the last `create id` / `destroy id` -/
theorem proj_eq_some_iff (P : Prog) (envs : Nat → Env) (id : Nat) (ops : List RegOp) (lang : Nat)
    (sops : List StoreOp) :
    proj P envs id ops = some (lang, sops) ↔
      ∃ pre post, ops = pre ++ RegOp.create id lang :: post ∧ (∀ op ∈ post, op.keeps id = true) ∧
        sops = storeOpsOf P (envs lang) id post := by
  refine ⟨fun h => ?_, fun ⟨pre, post, e, hk, es⟩ => e ▸ es ▸ proj_since P envs id lang pre post hk⟩
  rcases exists_last_split (·.keeps id) ops with hk | ⟨a, x, b, rfl, hx, hb⟩
  · rw [proj, projFrom_keeps P envs id ops hk] at h; cases h
  · rcases RegOp.not_keeps hx with ⟨l, rfl⟩ | rfl
    · rw [proj_since P envs id l a b hb] at h
      cases h
      exact ⟨a, b, rfl, hb, rfl⟩
    · rw [proj_append_cons, projFrom_keeps P envs id b hb] at h
      simp [projStep, RegOp.target] at h

theorem last_search_split (id : Nat) (post : List RegOp) (hk : ∀ op ∈ post, op.keeps id = true) :
    (∀ op ∈ post, op.quiet id = true) ∨
    ∃ mid q later, post = mid ++ RegOp.runSearch id q :: later ∧ (∀ op ∈ mid, op.keeps id = true) ∧
      ∀ op ∈ later, op.quiet id = true := by
  rcases exists_last_split (·.quiet id) post with h | ⟨a, x, b, rfl, hx, hb⟩
  · exact .inl h
  · obtain ⟨q, rfl⟩ := RegOp.search_of_not_quiet (hk x (List.mem_append_right _ List.mem_cons_self)) hx
    exact .inr ⟨a, q, b, rfl, fun op h => hk op (List.mem_append_left _ h), hb⟩

/-! ### the store of a live id -/

/-- what is known of that store: a store reached from `Store::new` whose titles went through `tokenize_record` -/
structure StoreFacts (S : Sorter) (st : Store) : Prop where
  inv    : StoreInv S Gen.srcConsts st
  textOK : ∀ r ∈ st.records, TextOK r.title

theorem since_storeFacts (S : Sorter) (envs : Nat → Env) (hE : EnvsOK envs) (id lang : Nat) (post : List RegOp) :
    StoreFacts S (runOne S Gen.srcProg (storeOpsOf Gen.srcProg (envs lang) id post)) :=
  ⟨StoreInv_reachable S _ _ _, fun r hr => by
    obtain ⟨s, hs⟩ := storeOpsOf_tokenized _ _ _ _ _ _ _ (run_new_records_add S _ _ _ r hr)
    exact hs ▸ (hE.record lang s).textOK⟩

/-! ### records, limit and markers of the store of an id, read off the call list -/

/-- one call seen by `addedOf`: `add_record` on `id` appends its triple, `clearStore id`
    (`using_store(id, |s| s.clear())`) forgets everything, any other call changes nothing -/
def addedStep (id : Nat) (acc : List (Nat × List Nat × Nat)) : RegOp → List (Nat × List Nat × Nat)
  | .addRecord j recId title rating => if j = id then acc ++ [(recId, title, rating)] else acc
  | .clearStore j => if j = id then [] else acc
  | _ => acc

def addedFrom (id : Nat) (acc : List (Nat × List Nat × Nat)) (post : List RegOp) : List (Nat × List Nat × Nat) :=
  post.foldl (addedStep id) acc

/-- the `(recId, raw title, rating)` triples of the `add_record` calls on `id` in `post` made since the last
    `clearStore id` in `post` (all of them if there is none), in call order: what the store of `id` holds -/
def addedOf (id : Nat) (post : List RegOp) : List (Nat × List Nat × Nat) := addedFrom id [] post

/-- ALL `add_record` calls on `id` in `post`, in call order (what `addedOf` is when `post` has no `clearStore id`) -/
def addsOf (id : Nat) (post : List RegOp) : List (Nat × List Nat × Nat) :=
  post.filterMap (fun op => match op with
    | .addRecord j recId title rating => if j = id then some (recId, title, rating) else none
    | _ => none)

/-- the limit in force after the calls `post`, starting from `n0`: the argument of the last `set_limit` on `id` -/
def limitFrom (id : Nat) (n0 : Nat) (post : List RegOp) : Nat :=
  post.foldl (fun n op => match op with
    | .setLimit j m => if j = id then m else n
    | _ => n) n0

/-- the markers in force after the calls `post`, starting from `d0`: those of the last `highlight_with` on `id` -/
def markersFrom (id : Nat) (d0 : List Nat × List Nat) (post : List RegOp) : List Nat × List Nat :=
  post.foldl (fun d op => match op with
    | .highlightWith j l r => if j = id then (l, r) else d
    | _ => d) d0

def limitOf (id : Nat) (post : List RegOp) : Nat := limitFrom id Gen.srcConsts.defaultLimit post

def markersOf (id : Nat) (post : List RegOp) : List Nat × List Nat :=
  markersFrom id (Gen.srcConsts.dividerL, Gen.srcConsts.dividerR) post

theorem addedOf_after_clear (id : Nat) (a b : List RegOp) :
    addedOf id (a ++ RegOp.clearStore id :: b) = addedOf id b := by
  simp [addedOf, addedFrom, addedStep]

theorem addedStep_eq (id : Nat) (acc : List (Nat × List Nat × Nat)) {op : RegOp} (h : op ≠ .clearStore id) :
    addedStep id acc op = acc ++ addsOf id [op] := by
  cases op <;> simp only [addedStep, addsOf, List.filterMap_cons, List.filterMap_nil, List.append_nil]
  · split <;> simp [*]
  · exact if_neg fun e => absurd (e ▸ rfl) h

theorem addedFrom_noClear (id : Nat) (post : List RegOp) (hnc : ∀ op ∈ post, op ≠ RegOp.clearStore id) :
    ∀ acc, addedFrom id acc post = acc ++ addsOf id post := by
  induction post with
  | nil => exact fun acc => (List.append_nil acc).symm
  | cons op post ih =>
    intro acc
    simp only [List.mem_cons, forall_eq_or_imp] at hnc
    show addedFrom id (addedStep id acc op) post = _
    rw [ih hnc.2, addedStep_eq id acc hnc.1, List.append_assoc]
    exact congrArg (acc ++ ·) (List.filterMap_append (l := [op])).symm

theorem addedOf_noClear (id : Nat) (post : List RegOp) (hnc : ∀ op ∈ post, op ≠ RegOp.clearStore id) :
    addedOf id post = addsOf id post := by
  rw [addedOf, addedFrom_noClear id post hnc]; rfl

theorem mem_addsOf (id : Nat) (post : List RegOp) (recId : Nat) (title : List Nat) (rating : Nat) :
    (recId, title, rating) ∈ addsOf id post ↔ RegOp.addRecord id recId title rating ∈ post := by
  unfold addsOf
  rw [List.mem_filterMap]
  constructor
  · rintro ⟨op, hm, hop⟩
    cases op <;> simp only [reduceCtorEq] at hop
    split at hop <;> simp only [Option.some.injEq, Prod.mk.injEq, reduceCtorEq] at hop
    rename_i h
    obtain ⟨rfl, rfl, rfl⟩ := hop
    exact h ▸ hm
  · intro hm
    exact ⟨_, hm, by simp⟩

theorem addedOf_eq_addsOf (id : Nat) (post : List RegOp) :
    ∃ a b, (post = b ∨ post = a ++ RegOp.clearStore id :: b) ∧ (∀ op ∈ b, op ≠ RegOp.clearStore id) ∧
      addedOf id post = addsOf id b := by
  rcases exists_last_split (fun op => decide (op ≠ RegOp.clearStore id)) post with h | ⟨a, x, b, rfl, hx, hb⟩
  · have h' := fun op ho => of_decide_eq_true (h op ho)
    exact ⟨[], post, .inl rfl, h', addedOf_noClear id post h'⟩
  · have hb' := fun op ho => of_decide_eq_true (hb op ho)
    rw [Decidable.not_not.mp (of_decide_eq_false hx)]
    exact ⟨a, b, .inr rfl, hb', by rw [addedOf_after_clear, addedOf_noClear id b hb']⟩

/-- **what `addedOf` holds**: the triple of an `add_record` call on `id` after which no `clearStore id` was made -/
theorem mem_addedOf (id : Nat) (post : List RegOp) (recId : Nat) (title : List Nat) (rating : Nat) :
    (recId, title, rating) ∈ addedOf id post ↔
      ∃ a b, post = a ++ RegOp.addRecord id recId title rating :: b ∧ ∀ op ∈ b, op ≠ RegOp.clearStore id := by
  constructor
  · intro h
    obtain ⟨a, b, hpost, hb, e⟩ := addedOf_eq_addsOf id post
    rw [e, mem_addsOf] at h
    obtain ⟨b1, b2, rfl⟩ := List.append_of_mem h
    have hb2 : ∀ op ∈ b2, op ≠ RegOp.clearStore id := fun op ho => hb op (by simp [ho])
    rcases hpost with rfl | rfl
    · exact ⟨b1, b2, rfl, hb2⟩
    · exact ⟨a ++ RegOp.clearStore id :: b1, b2, by simp, hb2⟩
  · rintro ⟨a, b, rfl, hb⟩
    rw [addedOf, addedFrom, List.foldl_append, List.foldl_cons, ← addedFrom, addedFrom_noClear id b hb]
    simp [addedStep]

/-- without a `clearStore id` among the calls: exactly the `add_record` calls on `id` -/
theorem mem_addedOf_noClear (id : Nat) (post : List RegOp) (hnc : ∀ op ∈ post, op ≠ RegOp.clearStore id)
    (recId : Nat) (title : List Nat) (rating : Nat) :
    (recId, title, rating) ∈ addedOf id post ↔ RegOp.addRecord id recId title rating ∈ post := by
  rw [addedOf_noClear id post hnc, mem_addsOf]

theorem storeOp_fields (S : Sorter) (K : Consts) (order : List ScoreType) (P : Prog) (E : Env) (id : Nat)
    (op : RegOp) (st : Store) (acc : List (Nat × List Nat × Nat))
    (h : st.records.map Record.data = acc.map (fun x => (x.1, tokenizeRecord P E x.2.1, x.2.2))) :
    ((st.run S K order (op.toStoreOp? P E id).toList).records.map Record.data =
        (addedStep id acc op).map (fun x => (x.1, tokenizeRecord P E x.2.1, x.2.2))) ∧
    (st.run S K order (op.toStoreOp? P E id).toList).limit = limitFrom id st.limit [op] ∧
    (st.run S K order (op.toStoreOp? P E id).toList).dividers = markersFrom id st.dividers [op] := by
  cases op <;> dsimp only [RegOp.toStoreOp?, addedStep, limitFrom, markersFrom, List.foldl] <;> (try split)
  case addRecord.isTrue => exact ⟨by rw [List.map_append, ← h]; exact List.map_append, rfl, rfl⟩
  case runSearch.isTrue =>
    obtain ⟨_, h1, h2, h3, _⟩ := searchM_snd_fields S K order st (tokenizeQuery P E ‹_›)
    exact ⟨h1 ▸ h, h2, h3⟩
  case clearStore.isTrue => exact ⟨rfl, rfl, rfl⟩
  -- every other call leaves the records alone and sets the limit or the markers exactly as the folds do
  all_goals exact ⟨h, rfl, rfl⟩

theorem run_storeOps_fields (S : Sorter) (K : Consts) (order : List ScoreType) (P : Prog) (E : Env) (id : Nat)
    (post : List RegOp) : ∀ (st0 : Store) (acc : List (Nat × List Nat × Nat)),
    st0.records.map Record.data = acc.map (fun x => (x.1, tokenizeRecord P E x.2.1, x.2.2)) →
    ((st0.run S K order (storeOpsOf P E id post)).records.map Record.data =
        (addedFrom id acc post).map (fun x => (x.1, tokenizeRecord P E x.2.1, x.2.2))) ∧
    (st0.run S K order (storeOpsOf P E id post)).limit = limitFrom id st0.limit post ∧
    (st0.run S K order (storeOpsOf P E id post)).dividers = markersFrom id st0.dividers post := by
  induction post with
  | nil => intro st0 acc h0; exact ⟨h0, rfl, rfl⟩
  | cons op post ih =>
    intro st0 acc h0
    obtain ⟨h1, h2, h3⟩ := storeOp_fields S K order P E id op st0 acc h0
    have := ih _ _ h1
    rw [h2, h3] at this
    rw [storeOpsOf_cons, Store.run, List.foldl_append]
    exact this

/-- **records, limit and markers of the store of `id`** after `create id lang` followed by the calls `post`:
    the records are the `add_record` calls on `id` made since the last `clearStore id`, in call order (titles
    tokenised for `lang`), the limit is that of the last `set_limit` on `id` (default 10), the markers those of the
    last `highlight_with` on `id` (default `[` `]`); a `clearStore id` changes neither limit nor markers -/
theorem store_fields (S : Sorter) (E : Env) (id : Nat) (post : List RegOp) :
    ((runOne S Gen.srcProg (storeOpsOf Gen.srcProg E id post)).records.map Record.data =
        (addedOf id post).map (fun x => (x.1, tokenizeRecord Gen.srcProg E x.2.1, x.2.2))) ∧
    (runOne S Gen.srcProg (storeOpsOf Gen.srcProg E id post)).limit = limitOf id post ∧
    (runOne S Gen.srcProg (storeOpsOf Gen.srcProg E id post)).dividers = markersOf id post :=
  run_storeOps_fields S Gen.srcConsts Gen.srcScoreOrder Gen.srcProg E id post (Store.new Gen.srcConsts) [] rfl

theorem store_records_length (S : Sorter) (E : Env) (id : Nat) (post : List RegOp) :
    (runOne S Gen.srcProg (storeOpsOf Gen.srcProg E id post)).records.length = (addedOf id post).length := by
  simpa using congrArg List.length (store_fields S E id post).1

theorem since_hlim (S : Sorter) (E : Env) (id : Nat) (post : List RegOp)
    (h : (addedOf id post).length ≤ limitOf id post) :
    (runOne S Gen.srcProg (storeOpsOf Gen.srcProg E id post)).records.length ≤
      (runOne S Gen.srcProg (storeOpsOf Gen.srcProg E id post)).limit := by
  rw [store_records_length, (store_fields S E id post).2.1]; exact h

/-- `h`: an `add_record id recId title rating` call among `post` that was not followed by a `clearStore id`
    (`mem_addedOf`) -/
theorem store_record_of_add (S : Sorter) (E : Env) (id : Nat) (post : List RegOp) (recId : Nat) (title : List Nat)
    (rating : Nat) (h : (recId, title, rating) ∈ addedOf id post) :
    ∃ (ix : Nat) (r : Record), (runOne S Gen.srcProg (storeOpsOf Gen.srcProg E id post)).records[ix]? = some r ∧
      r.id = recId ∧
      r.title = tokenizeRecord Gen.srcProg E title ∧ r.rating = rating := by
  have hm : (recId, tokenizeRecord Gen.srcProg E title, rating) ∈
      (runOne S Gen.srcProg (storeOpsOf Gen.srcProg E id post)).records.map Record.data := by
    rw [(store_fields S E id post).1]
    exact List.mem_map.mpr ⟨(recId, title, rating), h, rfl⟩
  obtain ⟨r, hr, hd⟩ := List.mem_map.mp hm
  obtain ⟨ix, hix⟩ := List.getElem?_of_mem hr
  simp only [Record.data, Prod.mk.injEq] at hd
  exact ⟨ix, r, hix, hd.1, hd.2.1, hd.2.2⟩

theorem add_of_store_record (S : Sorter) (E : Env) (id : Nat) (post : List RegOp) (r : Record)
    (h : r ∈ (runOne S Gen.srcProg (storeOpsOf Gen.srcProg E id post)).records) :
    ∃ title, RegOp.addRecord id r.id title r.rating ∈ post ∧ r.title = tokenizeRecord Gen.srcProg E title :=
  add_mem_storeOpsOf _ _ _ _ _ _ _ (run_new_records_add S _ _ _ r h)

/-! ### the result buffer -/

theorem step_quiet_results (S : Sorter) (P : Prog) (envs : Nat → Env) (g : Registry) (op : RegOp) (j : Nat)
    (hq : op.quiet j = true) : amGet (g.step S P envs op).results j = amGet g.results j := by
  unfold Registry.step
  split
  · rfl
  · cases op <;> simp only [RegOp.quiet, bne_iff_ne, ne_eq] at hq <;> simp only <;> (try split) <;>
      simp [amGet_amSet, amGet_amDel, hq]

theorem run_quiet_results (S : Sorter) (P : Prog) (envs : Nat → Env) (g : Registry) (ops' : List RegOp) (j : Nat)
    (hq : ∀ op ∈ ops', op.quiet j = true) : amGet (g.run S P envs ops').results j = amGet g.results j :=
  run_preserves S P envs (fun g => amGet g.results j) ops' (fun op ho g => step_quiet_results S P envs g op j (hq op ho)) g

/-- **what the buffer of `id` holds**: `id` was created with language `lang`, received the calls `post`
    (no destroy / re-create), then `run_search id q`, then calls `later` none of which is a search on `id`, a destroy
    or a re-create of `id`. The buffer is what the stand-alone store built from `post` answers to the tokenised
    query. -/
theorem buffer_after_search (S : Sorter) (envs : Nat → Env) (pre post later : List RegOp) (id lang : Nat)
    (q : List Nat)
    (hv : Registry.allValid S Gen.srcProg envs Registry.empty
            (pre ++ RegOp.create id lang :: post ++ RegOp.runSearch id q :: later) = true)
    (hk : ∀ op ∈ post, op.keeps id = true) (hq : ∀ op ∈ later, op.quiet id = true) :
    amGet (Registry.empty.run S Gen.srcProg envs
        (pre ++ RegOp.create id lang :: post ++ RegOp.runSearch id q :: later)).results id =
      some ((runOne S Gen.srcProg (storeOpsOf Gen.srcProg (envs lang) id post)).search S Gen.srcConsts
        Gen.srcScoreOrder (tokenizeQuery Gen.srcProg (envs lang) q)) := by
  -- the buffer after `… ++ [runSearch id q]` by C20 (`lastResults` of a list ending in a search), then `later`
  rw [List.append_cons (pre ++ RegOp.create id lang :: post)] at hv ⊢
  rw [allValid_append, Bool.and_eq_true] at hv
  rw [run_append, run_quiet_results S Gen.srcProg envs _ later id hq,
    (C20_isolation_live S Gen.srcProg envs _ hv.1 id lang _
      (proj_snoc_search _ _ _ _ q _ _ (proj_since Gen.srcProg envs id lang pre post hk))).2, lastResults_snoc]
  rfl

/-! ### the typed-string findability theorems for an environment given as a value with `E.K = Gen.srcConsts` -/

theorem prefix_typed_found_env (S : Sorter) (hS : SorterOK S) (E : Env) (hK : E.K = Gen.srcConsts)
    (hU : UnicodeFacts E.U Gen.srcConsts) (hT : TablesOK E.T = true) (hSt : StemHyp E) (ops : List StoreOp)
    (hops : ∀ id t rating, StoreOp.add id t rating ∈ ops → ∃ s, t = tokenizeRecord Gen.srcProg E s)
    (hlim : ((Store.new Gen.srcConsts).run S Gen.srcConsts Gen.srcScoreOrder ops).records.length
              ≤ ((Store.new Gen.srcConsts).run S Gen.srcConsts Gen.srcScoreOrder ops).limit)
    (ix : Nat) (r : Record)
    (hr : ((Store.new Gen.srcConsts).run S Gen.srcConsts Gen.srcScoreOrder ops).records[ix]? = some r)
    (w : WordShape) (hw : w ∈ r.title.words) (k : Nat) (hk : 1 ≤ k)
    (hlast : ((wchars r.title w).take k).getLast?.map E.U.isAlnum = some true)
    (hcomp : compose E.T ((wchars r.title w).take k) = (wchars r.title w).take k)
    (hred : reduce E.T ((wchars r.title w).take k) = none) :
    ∃ res ∈ ((Store.new Gen.srcConsts).run S Gen.srcConsts Gen.srcScoreOrder ops).search S Gen.srcConsts
        Gen.srcScoreOrder (tokenizeQuery Gen.srcProg E ((wchars r.title w).take k)), res.id = r.id := by
  rw [env_eta E hK] at hSt hops ⊢
  obtain ⟨res, h1, h2, _⟩ := C03_prefix_typed_found_src S hS E.U E.T E.stem hU hT hSt ops hops hlim ix r hr w hw k hk
    hlast hcomp hred
  exact ⟨res, h1, h2⟩

theorem whole_title_typed_env (S : Sorter) (hS : SorterOK S) (E : Env) (hK : E.K = Gen.srcConsts)
    (hU : UnicodeFacts E.U Gen.srcConsts) (hT : TablesOK E.T = true) (hSt : StemHyp E) (ops : List StoreOp)
    (hops : ∀ id t rating, StoreOp.add id t rating ∈ ops → ∃ s, t = tokenizeRecord Gen.srcProg E s)
    (hlim : ((Store.new Gen.srcConsts).run S Gen.srcConsts Gen.srcScoreOrder ops).records.length
              ≤ ((Store.new Gen.srcConsts).run S Gen.srcConsts Gen.srcScoreOrder ops).limit)
    (ix : Nat) (r : Record)
    (hr : ((Store.new Gen.srcConsts).run S Gen.srcConsts Gen.srcScoreOrder ops).records[ix]? = some r)
    (s : List Nat) (htitle : r.title = tokenizeRecord Gen.srcProg E s) (hne : r.title.words ≠ []) :
    ∃ res ∈ ((Store.new Gen.srcConsts).run S Gen.srcConsts Gen.srcScoreOrder ops).search S Gen.srcConsts
        Gen.srcScoreOrder (tokenizeQuery Gen.srcProg E s), res.id = r.id := by
  rw [env_eta E hK] at hSt hops htitle ⊢
  obtain ⟨res, h1, h2, _⟩ := C13_whole_title_typed_src S hS E.U E.T E.stem hU hT hSt ops hops hlim ix r hr s htitle hne
  exact ⟨res, h1, h2⟩

end Lucid
