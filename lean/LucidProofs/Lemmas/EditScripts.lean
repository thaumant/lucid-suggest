/-
  LucidProofs.Lemmas.EditScripts — the textbook meaning of the two reference distances of
  `Lemmas/DamlevBounds.lean`: `DL.lev a b |a| |b|` is the minimum cost of an edit script turning `a` into `b`
  (`lev_sound`, `lev_complete`; as lists of operations, `levScript_iff_ops`), and `DL.DLunit a b |a| |b|` the same for
  scripts that may also transpose two characters across gaps (`dlunit_sound`, `dlunit_complete`).

  Scripts are read from the front of the words, the recurrences run over prefixes. Soundness is proved for a script
  applied to what is left of the two words from any pair of positions on (`sound_at`), so the words themselves never
  change and each step of the script is one step inequality of the table; completeness builds the script of a prefix
  pair from those of shorter pairs by appending one step (`snoc_closed`, then `LevClosed.lev` / `LevClosed.dlunit`).
-/
import LucidProofs.Lemmas.DamlevBounds

namespace Lucid
namespace DL

theorem getD_append_right_nat (a t : List Nat) (k : Nat) : (a ++ t).getD (a.length + k) 0 = t.getD k 0 :=
  getD_append_right a t 0 k

theorem beq_indic_le_one (x y : Nat) : (if x == y then 0 else 1) ≤ 1 := by split <;> decide

/-- Edit scripts, read from the front of the two words: `LevScript a b n` — `a` can be turned into `b` by a
    script of cost `n`. `sub` does not require the two characters to differ (a wasteful script is still a
    script). -/
inductive LevScript : List Nat → List Nat → Nat → Prop
  | nil : LevScript [] [] 0
  | keep {a b : List Nat} {n : Nat} (c : Nat) : LevScript a b n → LevScript (c :: a) (c :: b) n
  | sub {a b : List Nat} {n : Nat} (c d : Nat) : LevScript a b n → LevScript (c :: a) (d :: b) (n + 1)
  | ins {a b : List Nat} {n : Nat} (d : Nat) : LevScript a b n → LevScript a (d :: b) (n + 1)
  | del {a b : List Nat} {n : Nat} (c : Nat) : LevScript a b n → LevScript (c :: a) b (n + 1)

theorem LevScript.cast {a b a' b' : List Nat} {n n' : Nat} (h : LevScript a b n) (ea : a = a') (eb : b = b')
    (en : n = n') : LevScript a' b' n' := by subst ea eb en; exact h

theorem LevScript.append {a b a' b' : List Nat} {n n' : Nat} (h : LevScript a b n) (h' : LevScript a' b' n') :
    LevScript (a ++ a') (b ++ b') (n + n') := by
  induction h with
  | nil => exact h'.cast rfl rfl (by omega)
  | keep c _ ih => exact .keep c ih
  | sub c d _ ih => exact (LevScript.sub c d ih).cast rfl rfl (by omega)
  | ins d _ ih => exact (LevScript.ins d ih).cast rfl rfl (by omega)
  | del c _ ih => exact (LevScript.del c ih).cast rfl rfl (by omega)

theorem LevScript.refl : ∀ y : List Nat, LevScript y y 0
  | [] => .nil
  | c :: y => .keep c (LevScript.refl y)

theorem LevScript.around (x : List Nat) {s t : List Nat} {n : Nat} (h : LevScript s t n) :
    LevScript (x ++ s) (x ++ t) n :=
  ((LevScript.refl x).append h).cast rfl rfl (Nat.zero_add n)

theorem LevScript.sound_at {s t : List Nat} {n : Nat} (h : LevScript s t n) : ∀ (A B : List Nat) (i j : Nat),
    A.drop i = s → B.drop j = t → i ≤ A.length → j ≤ B.length →
    lev A B A.length B.length ≤ lev A B i j + n := by
  induction h with
  | nil =>
    intro A B i j hA hB hi hj
    obtain rfl := Nat.le_antisymm hi (List.drop_eq_nil_iff.mp hA)
    obtain rfl := Nat.le_antisymm hj (List.drop_eq_nil_iff.mp hB)
    exact Nat.le_refl _
  | keep c _ ih =>
    intro A B i j hA hB _ _
    obtain ⟨gA, dA, lA⟩ := drop_eq_cons_getD 0 hA; obtain ⟨gB, dB, lB⟩ := drop_eq_cons_getD 0 hB
    have := ih A B (i+1) (j+1) dA dB lA lB; have h1 := lev_step_sub A B i j
    rw [gA, gB, beq_self_eq_true, if_pos rfl] at h1; omega
  | sub c d _ ih =>
    intro A B i j hA hB _ _
    obtain ⟨_, dA, lA⟩ := drop_eq_cons_getD 0 hA; obtain ⟨_, dB, lB⟩ := drop_eq_cons_getD 0 hB
    have := ih A B (i+1) (j+1) dA dB lA lB; have := lev_step_sub A B i j
    have := beq_indic_le_one (A.getD i 0) (B.getD j 0); omega
  | ins d _ ih =>
    intro A B i j hA hB hi _
    obtain ⟨_, dB, lB⟩ := drop_eq_cons_getD 0 hB
    have := ih A B i (j+1) hA dB hi lB; have := lev_step_ins A B i j; omega
  | del c _ ih =>
    intro A B i j hA hB _ hj
    obtain ⟨_, dA, lA⟩ := drop_eq_cons_getD 0 hA
    have := ih A B (i+1) j dA hB lA hj; have := lev_step_del A B i j; omega

theorem lev_sound {a b : List Nat} {n : Nat} (h : LevScript a b n) : lev a b a.length b.length ≤ n := by
  simpa [lev_zero_left] using h.sound_at a b 0 0 rfl rfl (Nat.zero_le _) (Nat.zero_le _)

/-- For any kind of script `S` to which single Levenshtein steps can be appended, "there is a script of that cost
    between the two prefixes" is preserved by the Levenshtein steps. -/
theorem snoc_closed {S : List Nat → List Nat → Nat → Prop} (hnil : S [] [] 0)
    (happ : ∀ {s t s' t' : List Nat} {n n' : Nat}, S s t n → LevScript s' t' n' → S (s ++ s') (t ++ t') (n + n'))
    (a b : List Nat) :
    LevClosed a b (fun i j v => i ≤ a.length → j ≤ b.length → S (a.take i) (b.take j) v) := by
  have hins : ∀ i j v, (i ≤ a.length → j ≤ b.length → S (a.take i) (b.take j) v) →
      i ≤ a.length → j + 1 ≤ b.length → S (a.take i) (b.take (j+1)) (v+1) := by
    intro i j v ih hi hj
    rw [take_succ_getD b 0 j hj]; simpa using happ (ih hi (Nat.le_of_lt hj)) (.ins (b.getD j 0) .nil)
  have hdel : ∀ i j v, (i ≤ a.length → j ≤ b.length → S (a.take i) (b.take j) v) →
      i + 1 ≤ a.length → j ≤ b.length → S (a.take (i+1)) (b.take j) (v+1) := by
    intro i j v ih hi hj
    rw [take_succ_getD a 0 i hi]; simpa using happ (ih (Nat.le_of_lt hi) hj) (.del (a.getD i 0) .nil)
  refine ⟨fun _ _ => hnil, hins, hdel, fun i j v ih hi hj => ?_⟩
  have h := ih (Nat.le_of_lt hi) (Nat.le_of_lt hj)
  rw [take_succ_getD a 0 i hi, take_succ_getD b 0 j hj]
  by_cases he : a.getD i 0 = b.getD j 0
  · rw [he, if_pos (beq_self_eq_true _)]; simpa using happ h (.keep (b.getD j 0) .nil)
  · rw [if_neg (by simpa using he)]; simpa using happ h (.sub (a.getD i 0) (b.getD j 0) .nil)

theorem LevScript.complete (a b : List Nat) : ∀ i j, i ≤ a.length → j ≤ b.length →
    LevScript (a.take i) (b.take j) (lev a b i j) :=
  (snoc_closed .nil LevScript.append a b).lev

theorem lev_complete (a b : List Nat) : LevScript a b (lev a b a.length b.length) := by
  simpa using LevScript.complete a b a.length b.length (Nat.le_refl _) (Nat.le_refl _)

/-- one operation of an edit script, applied at the front of what is left of the word -/
inductive EditOp where
  | keep
  | sub (d : Nat)
  | ins (d : Nat)
  | del
deriving Repr, DecidableEq

def EditOp.cost : EditOp → Nat
  | .keep => 0
  | _ => 1

def opsCost (ops : List EditOp) : Nat := (ops.map EditOp.cost).sum

/-- `none` if the script does not fit the word: characters left over, or none left for an operation that needs one -/
def applyOps : List EditOp → List Nat → Option (List Nat)
  | [], [] => some []
  | [], _ :: _ => none
  | .ins d :: ops, a => (applyOps ops a).map (d :: ·)
  | .keep :: ops, c :: a => (applyOps ops a).map (c :: ·)
  | .sub d :: ops, _ :: a => (applyOps ops a).map (d :: ·)
  | .del :: ops, _ :: a => applyOps ops a
  | .keep :: _, [] => none
  | .sub _ :: _, [] => none
  | .del :: _, [] => none

theorem levScript_of_ops (ops : List EditOp) (a b : List Nat) (h : applyOps ops a = some b) :
    LevScript a b (opsCost ops) := by
  fun_induction applyOps ops a generalizing b with
  | case1 => cases h; exact .nil
  | case3 d ops a ih =>
    obtain ⟨b', hb, rfl⟩ := Option.map_eq_some_iff.mp h
    exact (LevScript.ins d (ih b' hb)).cast rfl rfl (Nat.add_comm _ _)
  | case4 ops c a ih =>
    obtain ⟨b', hb, rfl⟩ := Option.map_eq_some_iff.mp h
    exact (LevScript.keep c (ih b' hb)).cast rfl rfl (Nat.zero_add _).symm
  | case5 d ops c a ih =>
    obtain ⟨b', hb, rfl⟩ := Option.map_eq_some_iff.mp h
    exact (LevScript.sub c d (ih b' hb)).cast rfl rfl (Nat.add_comm _ _)
  | case6 ops c a ih => exact (LevScript.del c (ih b h)).cast rfl rfl (Nat.add_comm _ _)
  | case2 | case7 | case8 | case9 => cases h

theorem ops_of_levScript {a b : List Nat} {n : Nat} (h : LevScript a b n) :
    ∃ ops, applyOps ops a = some b ∧ opsCost ops = n := by
  induction h with
  | nil => exact ⟨[], rfl, rfl⟩
  | keep c _ ih => obtain ⟨ops, h1, rfl⟩ := ih; exact ⟨.keep :: ops, by rw [applyOps, h1]; rfl, Nat.zero_add _⟩
  | sub c d _ ih => obtain ⟨ops, h1, rfl⟩ := ih; exact ⟨.sub d :: ops, by rw [applyOps, h1]; rfl, Nat.add_comm _ _⟩
  | ins d _ ih => obtain ⟨ops, h1, rfl⟩ := ih; exact ⟨.ins d :: ops, by rw [applyOps, h1]; rfl, Nat.add_comm _ _⟩
  | del c _ ih => obtain ⟨ops, h1, rfl⟩ := ih; exact ⟨.del :: ops, by rw [applyOps, h1], Nat.add_comm _ _⟩

/-- the relation `LevScript` is "some list of operations, run on `a`, yields `b`" -/
theorem levScript_iff_ops (a b : List Nat) (n : Nat) :
    LevScript a b n ↔ ∃ ops, applyOps ops a = some b ∧ opsCost ops = n :=
  ⟨ops_of_levScript, fun ⟨ops, h1, h2⟩ => h2 ▸ levScript_of_ops ops a b h1⟩

/-- soundness for operation lists -/
theorem lev_le_opsCost (ops : List EditOp) (a b : List Nat) (h : applyOps ops a = some b) :
    lev a b a.length b.length ≤ opsCost ops := lev_sound (levScript_of_ops ops a b h)

-- "kitten" → "sitting": substitute s, keep itt, substitute i, keep n, insert g: cost 3 = lev
example : applyOps [.sub 115, .keep, .keep, .keep, .sub 105, .keep, .ins 103]
    ("kitten".toList.map (·.toNat)) = some ("sitting".toList.map (·.toNat)) := by decide
example : opsCost [.sub 115, .keep, .keep, .keep, .sub 105, .keep, .ins 103] = 3 := by decide

/-- Edit scripts with transpositions across gaps (Lowrance–Wagner): a block `y u x` of `a` may also be turned into
    `x v y` at cost `|u| + |v| + 1` (delete `u`, swap the two now adjacent characters, insert `v` between them);
    with `u = v = []` this is the plain adjacent transposition at cost 1. -/
inductive DLScript : List Nat → List Nat → Nat → Prop
  | nil : DLScript [] [] 0
  | keep {a b : List Nat} {n : Nat} (c : Nat) : DLScript a b n → DLScript (c :: a) (c :: b) n
  | sub {a b : List Nat} {n : Nat} (c d : Nat) : DLScript a b n → DLScript (c :: a) (d :: b) (n + 1)
  | ins {a b : List Nat} {n : Nat} (d : Nat) : DLScript a b n → DLScript a (d :: b) (n + 1)
  | del {a b : List Nat} {n : Nat} (c : Nat) : DLScript a b n → DLScript (c :: a) b (n + 1)
  | trans {a b : List Nat} {n : Nat} (x y : Nat) (u v : List Nat) :
      DLScript a b n → DLScript (y :: u ++ x :: a) (x :: v ++ y :: b) (n + u.length + v.length + 1)

theorem DLScript.cast {a b a' b' : List Nat} {n n' : Nat} (h : DLScript a b n) (ea : a = a') (eb : b = b')
    (en : n = n') : DLScript a' b' n' := by subst ea eb en; exact h

theorem DLScript.of_lev {a b : List Nat} {n : Nat} (h : LevScript a b n) : DLScript a b n := by
  induction h with
  | nil => exact .nil
  | keep c _ ih => exact .keep c ih
  | sub c d _ ih => exact .sub c d ih
  | ins d _ ih => exact .ins d ih
  | del c _ ih => exact .del c ih

theorem DLScript.append {a b a' b' : List Nat} {n n' : Nat} (h : DLScript a b n) (h' : DLScript a' b' n') :
    DLScript (a ++ a') (b ++ b') (n + n') := by
  induction h with
  | nil => exact h'.cast rfl rfl (by omega)
  | keep c _ ih => exact .keep c ih
  | sub c d _ ih => exact (DLScript.sub c d ih).cast rfl rfl (by omega)
  | ins d _ ih => exact (DLScript.ins d ih).cast rfl rfl (by omega)
  | del c _ ih => exact (DLScript.del c ih).cast rfl rfl (by omega)
  | trans x y u v _ ih => exact (DLScript.trans x y u v ih).cast (by simp) (by simp) (by omega)

theorem DLunit_lipschitz (a b : List Nat) {p q p' q' : Nat} (hp : p ≤ p') (hq : q ≤ q') :
    DLunit a b p' q' + p + q ≤ DLunit a b p q + p' + q' := by
  induction hp with
  | refl =>
    induction hq with
    | refl => exact Nat.le_refl _
    | @step m _ ih => have : DLunit a b p m.succ ≤ DLunit a b p m + 1 := DLunit_step_ins a b p m; omega
  | @step m _ ih => have : DLunit a b m.succ q' ≤ DLunit a b m q' + 1 := DLunit_step_del a b m q'; omega

theorem lastOcc_ge (l : List Nat) (n c k : Nat) (hk : k < n) (hc : l.getD k 0 = c) : k + 1 ≤ lastOcc l n c := by
  induction n with
  | zero => omega
  | succ n ih =>
    unfold lastOcc
    split
    · omega
    · rename_i hne
      have : k ≠ n := fun e => hne (e ▸ hc)
      have := ih (by omega)
      omega

/-- Transposing with any earlier occurrences `a[p] = b[j]`, `b[q] = a[i]`: the recurrence uses the last ones, which
    is no worse, since going back further in the table gains at most what the longer gaps cost. -/
theorem DLunit_step_trans_at (a b : List Nat) {i j p q : Nat} (hp : p < i) (hq : q < j)
    (h1 : a.getD p 0 = b.getD j 0) (h2 : b.getD q 0 = a.getD i 0) :
    DLunit a b (i + 1) (j + 1) + p + q + 1 ≤ DLunit a b p q + i + j := by
  have := lastOcc_ge a i _ p hp h1
  have := lastOcc_ge b j _ q hq h2
  have := lastOcc_le a i (b.getD j 0)
  have := lastOcc_le b j (a.getD i 0)
  have := DLunit_step_trans a b i j (by omega) (by omega)
  generalize lastOcc a i (b.getD j 0) = l1 at *
  generalize lastOcc b j (a.getD i 0) = l2 at *
  have := DLunit_lipschitz a b (show p ≤ l1 - 1 by omega) (show q ≤ l2 - 1 by omega)
  omega

theorem DLScript.sound_at {s t : List Nat} {n : Nat} (h : DLScript s t n) : ∀ (A B : List Nat) (i j : Nat),
    A.drop i = s → B.drop j = t → i ≤ A.length → j ≤ B.length →
    DLunit A B A.length B.length ≤ DLunit A B i j + n := by
  induction h with
  | nil =>
    intro A B i j hA hB hi hj
    obtain rfl := Nat.le_antisymm hi (List.drop_eq_nil_iff.mp hA)
    obtain rfl := Nat.le_antisymm hj (List.drop_eq_nil_iff.mp hB)
    exact Nat.le_refl _
  | keep c _ ih =>
    intro A B i j hA hB _ _
    obtain ⟨gA, dA, lA⟩ := drop_eq_cons_getD 0 hA; obtain ⟨gB, dB, lB⟩ := drop_eq_cons_getD 0 hB
    have := ih A B (i+1) (j+1) dA dB lA lB; have h1 := DLunit_step_sub A B i j
    rw [gA, gB, beq_self_eq_true, if_pos rfl] at h1; omega
  | sub c d _ ih =>
    intro A B i j hA hB _ _
    obtain ⟨_, dA, lA⟩ := drop_eq_cons_getD 0 hA; obtain ⟨_, dB, lB⟩ := drop_eq_cons_getD 0 hB
    have := ih A B (i+1) (j+1) dA dB lA lB; have := DLunit_step_sub A B i j
    have := beq_indic_le_one (A.getD i 0) (B.getD j 0); omega
  | ins d _ ih =>
    intro A B i j hA hB hi _
    obtain ⟨_, dB, lB⟩ := drop_eq_cons_getD 0 hB
    have := ih A B i (j+1) hA dB hi lB; have := DLunit_step_ins A B i j; omega
  | del c _ ih =>
    intro A B i j hA hB _ hj
    obtain ⟨_, dA, lA⟩ := drop_eq_cons_getD 0 hA
    have := ih A B (i+1) j dA hB lA hj; have := DLunit_step_del A B i j; omega
  | @trans s t n x y u v _ ih =>
    intro A B i j hA hB _ _
    -- `y` sits at `i` and `x` at `i + 1 + |u|` in `A`; `x` at `j` and `y` at `j + 1 + |v|` in `B`
    obtain ⟨gAy, dA, _⟩ := drop_eq_cons_getD 0 (show A.drop i = y :: (u ++ x :: s) from hA)
    obtain ⟨gBx, dB, _⟩ := drop_eq_cons_getD 0 (show B.drop j = x :: (v ++ y :: t) from hB)
    obtain ⟨gAx, dA, lA⟩ := drop_eq_cons_getD 0 (show A.drop (i + 1 + u.length) = x :: s by
      rw [← List.drop_drop, dA, List.drop_left])
    obtain ⟨gBy, dB, lB⟩ := drop_eq_cons_getD 0 (show B.drop (j + 1 + v.length) = y :: t by
      rw [← List.drop_drop, dB, List.drop_left])
    have := ih A B _ _ dA dB lA lB
    have := DLunit_step_trans_at A B (i := i + 1 + u.length) (j := j + 1 + v.length) (p := i) (q := j)
      (by omega) (by omega) (gAy.trans gBy.symm) (gBx.trans gAx.symm)
    omega

theorem dlunit_sound {a b : List Nat} {n : Nat} (h : DLScript a b n) : DLunit a b a.length b.length ≤ n := by
  simpa [DLunit_zero_zero] using h.sound_at a b 0 0 rfl rfl (Nat.zero_le _) (Nat.zero_le _)

theorem take_split_at (l : List Nat) (i p : Nat) (hp : 0 < p) (hpi : p ≤ i) (hi : i < l.length) :
    l.take (i + 1) = l.take (p - 1) ++ (l.getD (p - 1) 0 :: (l.take i).drop p ++ [l.getD i 0]) := by
  rw [take_succ_getD l 0 i hi, ← List.append_assoc]
  have h1 : l.take i = (l.take i).take (p - 1) ++ (l.take i).drop (p - 1) := (List.take_append_drop _ _).symm
  have h2 : (l.take i).take (p - 1) = l.take (p - 1) := by rw [List.take_take]; congr 1; omega
  have hlen : p - 1 < (l.take i).length := by rw [List.length_take]; omega
  have h3 : (l.take i).drop (p - 1) = (l.take i)[p - 1] :: (l.take i).drop (p - 1 + 1) := List.drop_eq_getElem_cons hlen
  have h4 : (l.take i)[p - 1] = l.getD (p - 1) 0 := by
    rw [List.getElem_take]; simp [List.getD, List.getElem?_eq_getElem (show p - 1 < l.length by omega)]
  conv => lhs; rw [h1, h2, h3, h4, Nat.sub_add_cancel hp]

/-- besides the Levenshtein steps, the script that ends with the transposition of `a[l1-1]`, `a[i]` into `b[l2-1]`,
    `b[j]` -/
theorem DLScript.complete (a b : List Nat) : ∀ i j, i ≤ a.length → j ≤ b.length →
    DLScript (a.take i) (b.take j) (DLunit a b i j) := by
  refine (snoc_closed .nil (fun h h' => h.append (.of_lev h')) a b).dlunit fun i j v n1 n2 ih hi hj => ?_
  have hl1 := lastOcc_le a i (b.getD j 0)
  have hl2 := lastOcc_le b j (a.getD i 0)
  have s1 := lastOcc_spec a i (b.getD j 0) n1
  have s2 := lastOcc_spec b j (a.getD i 0) n2
  generalize lastOcc a i (b.getD j 0) = l1 at *
  generalize lastOcc b j (a.getD i 0) = l2 at *
  have e1 : ((a.take i).drop l1).length = i - l1 := by
    rw [List.length_drop, List.length_take, Nat.min_eq_left (Nat.le_of_lt hi)]
  have e2 : ((b.take j).drop l2).length = j - l2 := by
    rw [List.length_drop, List.length_take, Nat.min_eq_left (Nat.le_of_lt hj)]
  rw [take_split_at a i l1 (by omega) hl1 hi, take_split_at b j l2 (by omega) hl2 hj, s1, s2]
  exact ((ih (by omega) (by omega)).append (DLScript.trans (a.getD i 0) (b.getD j 0) ((a.take i).drop l1)
    ((b.take j).drop l2) .nil)).cast rfl rfl (by rw [e1, e2]; omega)

theorem dlunit_complete (a b : List Nat) : DLScript a b (DLunit a b a.length b.length) := by
  simpa using DLScript.complete a b a.length b.length (Nat.le_refl _) (Nat.le_refl _)

-- "ca" → "abc": transpose `c`,`a` across the inserted `b` (cost 2); no cheaper script exists
example : DLScript [99, 97] [97, 98, 99] 2 := DLScript.trans 97 99 [] [98] DLScript.nil
example : ∀ n, DLScript [99, 97] [97, 98, 99] n → 2 ≤ n := fun n h => by
  have := dlunit_sound h
  have e : DLunit [99, 97] [97, 98, 99] 2 3 = 2 := by simp [DLunit, lastOcc]
  simpa [e] using this

end DL
end Lucid
