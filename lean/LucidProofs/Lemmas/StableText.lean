/-
  LucidProofs.Lemmas.StableText — texts the tokenizer leaves alone.

  `Stable E cs`: the typed text `cs` is one word already in normal form: non-empty, no separator inside, begins
  and ends with a letter or digit, every character is its own lower-case form (`lower1 c = c`; since the D5 fix
  `TextOwn::lower` lower-cases every character unconditionally, so this — not "no upper-case character" — is what
  makes `lower` the identity), and the language's compose / reduce tables do not change it. For such a text both
  tokenizer pipelines of the source return exactly one word `(0, |cs|)` over the unchanged characters
  (`tokenizeQuery_stable`, `tokenizeRecord_stable`): this discharges the premises
  "the tokenised query is the single unfinished word … with characters …" of the end-to-end findability
  theorems (C03, C04, C13, C14).

  Conversely the characters of every word of a tokenised title, and every prefix of them ending in a letter or
  digit, satisfy all clauses of `Stable` except normaliser-stability (`stable_of_title_prefix`): the characters
  of a tokenised text are `lower1`-images (`tokenizeRecord_chars_lower_fixed`), and `lower1` is idempotent
  (`UnicodeFacts.lower_idem`), so `lower_fixed` follows from the pipeline — nothing about upper-case characters
  has to be assumed (the un-lowerable capitals of finding D4 are fixed by `lower1` too).

  The query and the record pipeline cut the same text into the same words (`tokenize_query_record_same`); plain
  ASCII lower-case letters and digits are stable (`stable_of_asciiLower`) in every language whose tables have no
  pure-ASCII key; the seven generated ones have none (`asciiFree_*`).
-/
import LucidProofs.C15
import LucidProofs.Lemmas.MatchBase

namespace Lucid

/-- a typed text that is one word in normal form -/
structure Stable (E : Env) (cs : List Nat) : Prop where
  nonempty    : cs ≠ []
  no_sep      : ∀ c ∈ cs, isSepChar E.U E.K c = false
  first_alnum : cs.head?.map E.U.isAlnum = some true
  last_alnum  : cs.getLast?.map E.U.isAlnum = some true
  lower_fixed : ∀ c ∈ cs, E.U.lower1 c = c
  compose_id  : compose E.T cs = cs
  reduce_none : reduce E.T cs = none

theorem stable_iff (E : Env) (cs : List Nat) :
    Stable E cs ↔ (cs ≠ [] ∧ (∀ c ∈ cs, isSepChar E.U E.K c = false) ∧ cs.head?.map E.U.isAlnum = some true ∧
      cs.getLast?.map E.U.isAlnum = some true ∧ (∀ c ∈ cs, E.U.lower1 c = c) ∧
      compose E.T cs = cs ∧ reduce E.T cs = none) :=
  ⟨fun h => ⟨h.1, h.2, h.3, h.4, h.5, h.6, h.7⟩, fun ⟨a, b, c, d, e, f, g⟩ => ⟨a, b, c, d, e, f, g⟩⟩

instance Stable.decidable (E : Env) (cs : List Nat) : Decidable (Stable E cs) :=
  decidable_of_iff _ (stable_iff E cs).symm

theorem stripSpan_id (isAl : Nat → Bool) (chars : List Nat) (x : Span)
    (h1 : (slice chars x.lo x.hi).head?.map isAl = some true)
    (h2 : (slice chars x.lo x.hi).getLast?.map isAl = some true) :
    stripSpan (fun c => !isAl c) chars x = x := by
  obtain ⟨a, ha, ha'⟩ := Option.map_eq_some_iff.1 h1
  obtain ⟨b, hb, hb'⟩ := Option.map_eq_some_iff.1 h2
  have e1 := stripLeft_le_of_not (p := fun c => !isAl c) (List.head?_eq_getElem?.symm.trans ha) (by rw [ha']; rfl)
  have e2 := lt_stripRight_of_not (p := fun c => !isAl c) (List.getLast?_eq_getElem?.symm.trans hb) (by rw [hb']; rfl)
  have e3 : stripRight (fun c => !isAl c) (slice chars x.lo x.hi) = 0 := by omega
  simp [stripSpan, Nat.le_zero.1 e1, e3]

theorem wordSpans_stable (E : Env) (f : Bool) (cs : List Nat) (h : Stable E cs) :
    wordSpans E f cs = [⟨0, cs.length, f⟩] := by
  have hl : 0 < cs.length := List.length_pos_iff.2 h.nonempty
  have e : splitSpanList (isSepChar E.U E.K) f cs = [⟨0, cs.length, f⟩] := by
    simp [splitSpanList, spansOf, splitSpans_run _ cs 0 none h.no_sep (fun _ => h.nonempty)]
  rw [wordSpans, e, List.map_singleton,
    stripSpan_id _ _ _ (by rw [slice_full]; exact h.first_alnum) (by rw [slice_full]; exact h.last_alnum)]
  simp [hl]

theorem map_lower_fixed (E : Env) (cs : List Nat) (h : ∀ c ∈ cs, E.U.lower1 c = c) : cs.map E.U.lower1 = cs := by
  calc cs.map E.U.lower1 = cs.map id := List.map_congr_left h
    _ = cs := List.map_id cs

theorem normChars_of_fixed (E : Env) (cs : List Nat) (hc : compose E.T cs = cs) (hr : reduce E.T cs = none) :
    normChars E cs = cs ∧ normSource E cs = cs := by
  rw [normChars_eq_match, normSource, hc, hr]
  exact ⟨rfl, rfl⟩

/-- the result of both pipelines on a stable text -/
def stableText (E : Env) (cs : List Nat) (f : Bool) : Text :=
  { words := [{ offset := 0, lo := 0, hi := cs.length,
                stem := if E.T.stemmer then E.stem cs else cs.length, pos := getPos E.T cs, fin := f }],
    source := cs, chars := cs, classes := cs.map (classOf E) }

theorem tokText_stable (E : Env) (cs : List Nat) (f : Bool) (h : Stable E cs) :
    tokText E f cs cs = stableText E cs f := by
  simp [tokText, wordSpans_stable E f cs h, map_lower_fixed E cs h.lower_fixed, Span.toWord, slice_full, stableText]

theorem tokenizeQuery_stable (E : Env) (cs : List Nat) (h : Stable E cs) :
    tokenizeQuery Gen.srcProg E cs = stableText E cs false := by
  obtain ⟨e1, e2⟩ := normChars_of_fixed E cs h.compose_id h.reduce_none
  rw [tokenizeQuery_eq, e1, e2, tokText_stable E cs false h]

theorem tokenizeRecord_stable (E : Env) (cs : List Nat) (h : Stable E cs) :
    tokenizeRecord Gen.srcProg E cs = stableText E cs true := by
  obtain ⟨e1, e2⟩ := normChars_of_fixed E cs h.compose_id h.reduce_none
  rw [tokenizeRecord_eq, e1, e2, tokText_stable E cs true h]

def stableWord (E : Env) (cs : List Nat) (f : Bool) : WordShape :=
  { offset := 0, lo := 0, hi := cs.length,
    stem := if E.T.stemmer then E.stem cs else cs.length, pos := getPos E.T cs, fin := f }

theorem stableText_words (E : Env) (cs : List Nat) (f : Bool) : (stableText E cs f).words = [stableWord E cs f] := rfl
theorem stableText_chars (E : Env) (cs : List Nat) (f : Bool) : (stableText E cs f).chars = cs := rfl
theorem stableWord_len (E : Env) (cs : List Nat) (f : Bool) : (stableWord E cs f).len = cs.length := rfl
theorem stableWord_fin (E : Env) (cs : List Nat) (f : Bool) : (stableWord E cs f).fin = f := rfl
theorem stableWord_lo (E : Env) (cs : List Nat) (f : Bool) : (stableWord E cs f).lo = 0 := rfl
theorem stableWord_hi (E : Env) (cs : List Nat) (f : Bool) : (stableWord E cs f).hi = cs.length := rfl
theorem wchars_stableText (E : Env) (cs : List Nat) (f : Bool) :
    wchars (stableText E cs f) (stableWord E cs f) = cs := by
  simp [wchars, stableText, stableWord, slice_full]

/-- `tokenizeQuery_stable` in the form the findability theorems consume -/
theorem tokenizeQuery_stable_word (E : Env) (cs : List Nat) (h : Stable E cs) :
    ∃ v, (tokenizeQuery Gen.srcProg E cs).words = [v] ∧ v.lo = 0 ∧ v.hi = cs.length ∧ v.fin = false ∧
      v.len = cs.length ∧ (tokenizeQuery Gen.srcProg E cs).chars = cs ∧
      wchars (tokenizeQuery Gen.srcProg E cs) v = cs := by
  rw [tokenizeQuery_stable E cs h]
  exact ⟨stableWord E cs false, rfl, rfl, rfl, rfl, rfl, rfl, wchars_stableText E cs false⟩

theorem tokenizeRecord_stable_word (E : Env) (cs : List Nat) (h : Stable E cs) :
    ∃ v, (tokenizeRecord Gen.srcProg E cs).words = [v] ∧ v.lo = 0 ∧ v.hi = cs.length ∧ v.fin = true ∧
      v.len = cs.length ∧ (tokenizeRecord Gen.srcProg E cs).chars = cs ∧
      wchars (tokenizeRecord Gen.srcProg E cs) v = cs := by
  rw [tokenizeRecord_stable E cs h]
  exact ⟨stableWord E cs true, rfl, rfl, rfl, rfl, rfl, rfl, wchars_stableText E cs true⟩

theorem TokInv.wchars_facts {E : Env} {q : Bool} {s : List Nat} {t : Text} (h : TokInv E q s t)
    (w : WordShape) (hw : w ∈ t.words) :
    wchars t w ≠ [] ∧ (wchars t w).length = w.len ∧
    (∀ c ∈ wchars t w, isSepChar E.U E.K c = false) ∧
    (wchars t w).head?.map E.U.isAlnum = some true ∧
    (wchars t w).getLast?.map E.U.isAlnum = some true ∧
    (∀ c ∈ wchars t w, E.U.isUppercase c = true → E.U.lower1 c = c) := by
  have hl := wchars_length (h.textOK.wordIn hw)
  have hpos := (h.textOK.wordIn hw).len_pos
  refine ⟨List.ne_nil_of_length_pos (hl ▸ hpos), hl, h.no_sep w hw, ?_, ?_, h.no_upper w hw⟩
  · obtain ⟨c, hc, ha⟩ := h.first_alnum w hw
    rw [List.head?_eq_getElem?, wchars, slice_getElem?, if_pos (show 0 < w.hi - w.lo from hpos), Nat.add_zero, hc, Option.map_some, ha]
  · obtain ⟨c, hc, ha⟩ := h.last_alnum w hw
    have e : w.lo + (w.len - 1) = w.hi - 1 := by have := (h.bounds w hw).1; simp only [WordShape.len]; omega
    rw [List.getLast?_eq_getElem?, hl, wchars, slice_getElem?, if_pos (show w.len - 1 < w.hi - w.lo from Nat.sub_lt hpos Nat.one_pos), e, hc,
      Option.map_some, ha]

theorem tokenizeRecord_chars_lower_fixed (E : Env) (hU : UnicodeFacts E.U E.K) (s : List Nat) :
    ∀ c ∈ (tokenizeRecord Gen.srcProg E s).chars, E.U.lower1 c = c :=
  tokenizeRecord_eq E s ▸ tokText_chars_lower_fixed E hU true _ _

theorem tokenizeQuery_chars_lower_fixed (E : Env) (hU : UnicodeFacts E.U E.K) (s : List Nat) :
    ∀ c ∈ (tokenizeQuery Gen.srcProg E s).chars, E.U.lower1 c = c :=
  tokenizeQuery_eq E s ▸ tokText_chars_lower_fixed E hU false _ _

theorem wchars_title_lower_fixed (E : Env) (hU : UnicodeFacts E.U E.K) (s : List Nat) (w : WordShape) :
    ∀ c ∈ wchars (tokenizeRecord Gen.srcProg E s) w, E.U.lower1 c = c :=
  fun c hc => tokenizeRecord_chars_lower_fixed E hU s c (mem_of_mem_slice hc)

/-- A prefix of a title word that ends in a letter or digit meets every clause of `Stable` but stability under
    the language's compose/reduce tables, which stays a hypothesis (`hc`, `hr`): a prefix can end in the first half
    of a two-character table key. -/
theorem stable_of_title_prefix (E : Env) (hU : UnicodeFacts E.U E.K) (hT : TablesOK E.T = true) (hS : StemHyp E)
    (s : List Nat) (w : WordShape) (hw : w ∈ (tokenizeRecord Gen.srcProg E s).words) (k : Nat) (hk : 1 ≤ k)
    (hlast : ((wchars (tokenizeRecord Gen.srcProg E s) w).take k).getLast?.map E.U.isAlnum = some true)
    (hc : compose E.T ((wchars (tokenizeRecord Gen.srcProg E s) w).take k)
            = (wchars (tokenizeRecord Gen.srcProg E s) w).take k)
    (hr : reduce E.T ((wchars (tokenizeRecord Gen.srcProg E s) w).take k) = none) :
    Stable E ((wchars (tokenizeRecord Gen.srcProg E s) w).take k) := by
  have hi := tokInv_tokenizeRecord E hU hT hS s
  obtain ⟨hne, _, hsep, hfirst, _, _⟩ := hi.wchars_facts w hw
  refine ⟨?_, fun c hc => hsep c (List.mem_of_mem_take hc), ?_, hlast,
    fun c hc => wchars_title_lower_fixed E hU s w c (List.mem_of_mem_take hc), hc, hr⟩
  · intro e
    rw [List.take_eq_nil_iff] at e
    rcases e with e | e
    · omega
    · exact hne e
  · rw [List.head?_take, if_neg (Nat.ne_of_gt hk)]; exact hfirst

/-- the whole word of a tokenised title (no prefix taken) -/
theorem stable_of_title_word (E : Env) (hU : UnicodeFacts E.U E.K) (hT : TablesOK E.T = true) (hS : StemHyp E)
    (s : List Nat) (w : WordShape) (hw : w ∈ (tokenizeRecord Gen.srcProg E s).words)
    (hc : compose E.T (wchars (tokenizeRecord Gen.srcProg E s) w) = wchars (tokenizeRecord Gen.srcProg E s) w)
    (hr : reduce E.T (wchars (tokenizeRecord Gen.srcProg E s) w) = none) :
    Stable E (wchars (tokenizeRecord Gen.srcProg E s) w) := by
  have hi := tokInv_tokenizeRecord E hU hT hS s
  obtain ⟨hne, _, hsep, hfirst, hlast, _⟩ := hi.wchars_facts w hw
  exact ⟨hne, hsep, hfirst, hlast, wchars_title_lower_fixed E hU s w, hc, hr⟩

def Span.range (x : Span) : Nat × Nat := (x.lo, x.hi)

theorem wordSpans_range (E : Env) (f g : Bool) (cs : List Nat) :
    (wordSpans E f cs).map Span.range = (wordSpans E g cs).map Span.range := by
  simp only [wordSpans, splitSpanList, List.map_map, List.filter_map]
  -- the flag is left in the `fin` field only, which neither the filter nor `Span.range` reads
  rfl

theorem tokText_ranges (E : Env) (f : Bool) (src cs : List Nat) :
    (tokText E f src cs).words.map (fun w => w.span.range) = (wordSpans E f cs).map Span.range := by
  rw [← tokText_spans E f src cs, List.map_map]; rfl

theorem wchars_eq_of_range (t t' : Text) (hc : t.chars = t'.chars)
    (hr : t.words.map (fun w => w.span.range) = t'.words.map (fun w => w.span.range)) :
    t.words.map (wchars t) = t'.words.map (wchars t') := by
  have e : ∀ T : Text, T.words.map (wchars T) =
      (T.words.map (fun w => w.span.range)).map (fun p => slice T.chars p.1 p.2) := by
    intro T; rw [List.map_map]; rfl
  rw [e t, e t', hr, hc]

/-- **Typing a title as it was stored gives the same words.** For every text `s` the query pipeline and the
    record pipeline produce the same normalised characters and words with the same bounds (they differ only
    in the `fin` flag of the last word), hence the same list of word spellings. -/
theorem tokenize_query_record_same (E : Env) (s : List Nat) :
    (tokenizeQuery Gen.srcProg E s).chars = (tokenizeRecord Gen.srcProg E s).chars ∧
    (tokenizeQuery Gen.srcProg E s).words.map (fun w => w.span.range) =
      (tokenizeRecord Gen.srcProg E s).words.map (fun w => w.span.range) ∧
    (tokenizeQuery Gen.srcProg E s).words.map (wchars (tokenizeQuery Gen.srcProg E s)) =
      (tokenizeRecord Gen.srcProg E s).words.map (wchars (tokenizeRecord Gen.srcProg E s)) := by
  have hr : (tokenizeQuery Gen.srcProg E s).words.map (fun w => w.span.range) =
      (tokenizeRecord Gen.srcProg E s).words.map (fun w => w.span.range) := by
    rw [tokenizeQuery_eq, tokenizeRecord_eq, tokText_ranges, tokText_ranges, wordSpans_range]
  have hc : (tokenizeQuery Gen.srcProg E s).chars = (tokenizeRecord Gen.srcProg E s).chars := by
    rw [tokenizeQuery_eq, tokenizeRecord_eq]; rfl
  exact ⟨hc, hr, wchars_eq_of_range _ _ hc hr⟩

/-- the text consists of ASCII lower-case letters and digits -/
def AsciiLower (cs : List Nat) : Prop := ∀ c ∈ cs, 97 ≤ c ∧ c ≤ 122 ∨ 48 ≤ c ∧ c ≤ 57

theorem asciiLower_iff (cs : List Nat) : AsciiLower cs ↔ ∀ c ∈ cs, asciiLowerChar c = true := by
  simp only [AsciiLower, asciiLowerChar, Bool.or_eq_true, Bool.and_eq_true, decide_eq_true_eq]

instance (cs : List Nat) : Decidable (AsciiLower cs) := decidable_of_iff _ (asciiLower_iff cs).symm

/-- no key of the normalisation table consists of ASCII lower-case letters / digits only -/
def asciiFree (m : List (List Nat × List Nat)) : Bool := m.all (fun e => !(e.1.all asciiLowerChar))

def AsciiFreeTables (T : LangTables) : Bool := asciiFree T.compose && asciiFree T.reduce

theorem mapGet_none_of_asciiFree (m : List (List Nat × List Nat)) (hm : asciiFree m = true) (k : List Nat)
    (hk : k.all asciiLowerChar = true) : mapGet m k = none := by
  refine (mapGet_eq_none_iff m k).2 fun e he hek => ?_
  have := List.all_eq_true.1 hm e he
  rw [hek, hk] at this
  cases this

theorem composeWith_ascii (m : List (List Nat × List Nat)) (hm : asciiFree m = true) (w : List Nat)
    (hw : ∀ c ∈ w, asciiLowerChar c = true) : composeWith m w = w := by
  induction w with
  | nil => rfl
  | cons a w ih =>
    have ha := hw a List.mem_cons_self
    have hw' : ∀ c ∈ w, asciiLowerChar c = true := fun c hc => hw c (List.mem_cons_of_mem _ hc)
    rw [composeWith_cons m a w (fun x hx => mapGet_none_of_asciiFree m hm _
        (by simp [ha, hw' x (List.mem_of_mem_head? hx)])),
      ih hw', red1, mapGet_none_of_asciiFree m hm [a] (by simp [ha])]
    rfl

theorem reduceWith_ascii (m : List (List Nat × List Nat)) (hm : asciiFree m = true) (w : List Nat)
    (hw : ∀ c ∈ w, asciiLowerChar c = true) : reduceWith m w = none :=
  (reduceWith_none_iff m w).2 (composeWith_ascii m hm w hw)

theorem srcPunctuation_ascii (c : Nat) (hc : asciiLowerChar c = true) :
    Gen.srcConsts.punctuation.contains c = false := by
  rw [Bool.eq_false_iff]
  intro h
  simp only [asciiLowerChar, Bool.or_eq_true, Bool.and_eq_true, decide_eq_true_eq] at hc
  simp only [Gen.srcConsts, List.contains_eq_mem, List.mem_cons, List.not_mem_nil, or_false,
    decide_eq_true_eq] at h
  omega

/-- **ASCII lower-case words are stable.** With the punctuation set of the source, a Unicode oracle meeting
    `AsciiFacts` and language tables without pure-ASCII keys, every non-empty text of letters `a`–`z` and digits
    is `Stable`: the tokenizer returns it as one word, unchanged. -/
theorem stable_of_asciiLower (E : Env) (hK : E.K = Gen.srcConsts) (hA : AsciiFacts E.U)
    (hF : AsciiFreeTables E.T = true) (cs : List Nat) (hcs : AsciiLower cs) (hne : cs ≠ []) : Stable E cs := by
  have hb := (asciiLower_iff cs).1 hcs
  simp only [AsciiFreeTables, Bool.and_eq_true] at hF
  have hal : ∀ c, asciiLowerChar c = true → E.U.isAlnum c = true := by
    intro c hc
    simp only [asciiLowerChar, Bool.or_eq_true, Bool.and_eq_true, decide_eq_true_eq] at hc
    simp only [Unicode.isAlnum, Bool.or_eq_true]
    rcases hc with h | h
    · exact Or.inl (hA.alpha c h.1 h.2)
    · exact Or.inr (hA.numeric c h.1 h.2)
  refine ⟨hne, ?_, ?_, ?_, fun c hc => hA.lower_fixed c (hb c hc), composeWith_ascii _ hF.1 cs hb,
    reduceWith_ascii _ hF.2 cs hb⟩
  · intro c hc
    simp only [isSepChar, hA.not_space c (hb c hc), hA.not_ctrl c (hb c hc), hK, srcPunctuation_ascii c (hb c hc),
      Bool.or_self]
  · cases cs with
    | nil => exact absurd rfl hne
    | cons a l => simp [hal a (hb a (List.mem_cons_self ..))]
  · have ha : cs.getLast? = some (cs.getLast hne) := List.getLast?_eq_some_getLast hne
    generalize cs.getLast hne = a at ha
    rw [ha]
    simp [hal a (hb a (List.mem_of_getLast? ha))]

/-! ### the generated language tables have no pure-ASCII keys -/

theorem asciiFree_none : AsciiFreeTables Gen.lang_none = true := by decide +kernel
theorem asciiFree_de : AsciiFreeTables Gen.lang_de = true := by decide +kernel
theorem asciiFree_en : AsciiFreeTables Gen.lang_en = true := by decide +kernel
theorem asciiFree_es : AsciiFreeTables Gen.lang_es = true := by decide +kernel
theorem asciiFree_fr : AsciiFreeTables Gen.lang_fr = true := by decide +kernel
theorem asciiFree_pt : AsciiFreeTables Gen.lang_pt = true := by decide +kernel
theorem asciiFree_ru : AsciiFreeTables Gen.lang_ru = true := by decide +kernel

theorem asciiFree_srcLangs : ∀ p ∈ Gen.srcLangs, AsciiFreeTables p.2 = true := fun p hp =>
  forall_srcLangs (C := fun T => AsciiFreeTables T = true) asciiFree_none asciiFree_de asciiFree_en asciiFree_es
    asciiFree_fr asciiFree_pt asciiFree_ru (name := p.1) hp

theorem toyU_asciiFacts : AsciiFacts toyU := by
  refine ⟨?_, ?_, ?_, ?_, ?_⟩
  · intro c h1 h2; simp [toyU]; omega
  · intro c h1 h2; simp [toyU]; omega
  · intro c hc; simp [toyU, asciiLowerChar] at hc ⊢; omega
  · intro c hc; simp [toyU, asciiLowerChar] at hc ⊢; omega
  · intro c hc; simp [toyU, asciiLowerChar] at hc ⊢; omega

/-! ### non-vacuity -/

/-- "def" is stable for the toy ASCII oracle with the English tables; "Def", "de f", "de'" are not -/
example : Stable (toyEnv Gen.lang_en) [100, 101, 102] := by decide +kernel
example : ¬ Stable (toyEnv Gen.lang_en) [68, 101, 102] := by decide +kernel
example : ¬ Stable (toyEnv Gen.lang_en) [100, 101, 32, 102] := by decide +kernel
example : ¬ Stable (toyEnv Gen.lang_en) [100, 101, 39] := by decide +kernel
/-- "straße" is not stable in German (`ß` is reduced), "strasse" is -/
example : ¬ Stable (toyEnv Gen.lang_de) [115, 116, 114, 97, 223, 101] := by decide +kernel
example : Stable (toyEnv Gen.lang_de) [115, 116, 114, 97, 115, 115, 101] := by decide +kernel

example : (tokenizeQuery Gen.srcProg (toyEnv Gen.lang_en) [100, 101, 102]).words =
    [{ offset := 0, lo := 0, hi := 3, stem := 2, pos := none, fin := false }] := by
  rw [tokenizeQuery_stable _ _ (by decide +kernel)]; decide +kernel

end Lucid
