/-
  LucidProofs.Lemmas.WordMatchSpec — `word_match` (`Lucid.wordMatchM` / `Lucid.wordMatch`) characterised: it does not
  depend on the reused matrix, and on two words lying in their texts it returns `new_pair` of the first slice pair
  of least prefix distance `DL.D` among those that pass the guards (`SliceAdm`), provided the two gates let
  the words through. Three statements carry every later use:
  `wordMatch_some` (what a result is), `wordMatch_ne_none` (when there is one), `wordMatch_eq_some` (which one).
-/
import LucidProofs.Lemmas.MatchBase
import LucidProofs.Lemmas.WordMatchLoop
import LucidProofs.Lemmas.DamlevRefine

namespace Lucid
open DL

theorem cword_aligned (K : Consts) (t : Text) (w : WordShape) (ht : t.classes.length = t.chars.length) :
    Aligned (cword K t w) := by
  simp [Aligned, cword, wchars, wclasses, slice, ht]

theorem cword_cost_ok (K : Consts) (hK : CostsOK K = true) (t : Text) (w : WordShape) :
    ∀ x ∈ (cword K t w).cost, 0 < x ∧ x ≤ 10 ∧ x % 5 = 0 := by
  intro x hx
  simp only [cword, List.mem_map] at hx
  obtain ⟨c, _, rfl⟩ := hx
  exact getCost_ok K hK c

theorem cword_costLe (K : Consts) (hK : CostsOK K = true) (t : Text) (w : WordShape) : CostLe (cword K t w) :=
  fun x hx => (cword_cost_ok K hK t w x hx).2.1

theorem cword_costPos (K : Consts) (hK : CostsOK K = true) (t : Text) (w : WordShape) : CostPos (cword K t w) :=
  fun x hx => (cword_cost_ok K hK t w x hx).1

theorem cword_costMul5 (K : Consts) (hK : CostsOK K = true) (t : Text) (w : WordShape) : CostMul5 (cword K t w) :=
  fun x hx => (cword_cost_ok K hK t w x hx).2.2

/-- the prefix distance `word_match` reads for the slices `(qs, rs)`: query = rows, record = columns -/
abbrev sliceDist (K : Consts) (rt : Text) (r : WordShape) (qt : Text) (q : WordShape) (qs rs : Nat) : Nat :=
  D K (cword K qt q) (cword K rt r) qs rs

/-- the context of the two loops with the matrix reads replaced by the specification `DL.D` -/
def specCtx (K : Consts) (rt : Text) (r : WordShape) (qt : Text) (q : WordShape) : WMCtx :=
  { K := K, r := r, q := q, left := wmLeftRaw r q - 1, cell := sliceDist K rt r qt q }

abbrev SliceAdm (K : Consts) (rt : Text) (r : WordShape) (qt : Text) (q : WordShape) (rs qs : Nat) : Prop :=
  Adm K r q (wmLeftRaw r q - 1) (sliceDist K rt r qt q) rs qs

theorem wmOuter_cell_congr (K : Consts) (r q : WordShape) (left : Nat) (cell cell' : Nat → Nat → Nat)
    (hcell : ∀ qs rs, qs ≤ q.len → rs ≤ r.len → cell' qs rs = cell qs rs) (range l : List Nat) :
    wmOuter { K := K, r := r, q := q, left := left, cell := cell' } range l none =
      wmOuter { K := K, r := r, q := q, left := left, cell := cell } range l none :=
  (wmOuter_map id (fun _ => rfl) K r q q left cell cell' rfl rfl rfl hcell (fun _ _ _ => rfl) range l).trans
    (congrFun Option.map_id _)

/-- distance threshold: `d ≤ d0` on slices of length ≥ `m` passes if `d0 / m` is within the threshold -/
theorem relTooBig_of_le (K : Consts) (d0 m : Nat) (hK : K.damDen * d0 ≤ K.damNum * 10 * m) {d qs rs : Nat}
    (hd : d ≤ d0) (hm : m ≤ max qs rs) : relTooBig K d qs rs = false := by
  simp only [relTooBig, decide_eq_false_iff_not, Nat.not_lt, gt_iff_lt]
  exact Nat.le_trans (Nat.mul_le_mul_left _ hd) (Nat.le_trans hK (Nat.mul_le_mul_left _ (by omega)))

section dist
variable {K : Consts} (hK : CostsOK K = true) {rt qt : Text} {r q : WordShape} (hr : WordIn rt r) (hq : WordIn qt q)
include hK hr hq

theorem sliceDist_eq_zero_iff {qs rs : Nat} (hqs : qs ≤ q.len) (hrs : rs ≤ r.len) :
    sliceDist K rt r qt q qs rs = 0 ↔ qs = rs ∧ ∀ k, k < qs → (wchars qt q).getD k 0 = (wchars rt r).getD k 0 :=
  D_eq_zero_iff K (KOK_of_CostsOK K hK) (cword K qt q) (cword K rt r) (cword_aligned K qt q hq.2.2)
    (cword_aligned K rt r hr.2.2) (cword_costPos K hK qt q) (cword_costPos K hK rt r) qs rs
    ((cword_len_of_wordIn K hq).symm ▸ hqs) ((cword_len_of_wordIn K hr).symm ▸ hrs)

omit hr hq in
theorem sliceDist_mod5 (qs rs : Nat) : sliceDist K rt r qt q qs rs % 5 = 0 :=
  D_mod5 K (KOK_of_CostsOK K hK) _ _ (cword_costMul5 K hK qt q) (cword_costMul5 K hK rt r) qs rs

end dist

theorem wordMatchM_spec (K : Consts) (hK : CostsOK K = true) (rt : Text) (r : WordShape) (qt : Text) (q : WordShape)
    (hr : WordIn rt r) (hq : WordIn qt q) (m : Mat) (hm : MInv m) :
    (wordMatchM K m rt r qt q).1 =
      (if lengthCheck K r q = true ∧ jaccardCheck K rt r qt q = true then
        wmOuter (specCtx K rt r qt q) (wmRange r q) (wmRange r q) none else none) ∧
    MInv (wordMatchM K m rt r qt q).2 := by
  obtain ⟨_, hd, hcell, _⟩ := distance_refines K (cword K qt q) (cword K rt r) (cword_aligned K qt q hq.2.2)
    (cword_aligned K rt r hr.2.2) (cword_costLe K hK qt q) (cword_costLe K hK rt r) m hm
  rw [cword_len_of_wordIn K hq, cword_len_of_wordIn K hr] at hcell
  rw [wordMatchM_eq]
  by_cases hg : lengthCheck K r q = true ∧ jaccardCheck K rt r qt q = true
  · rw [if_pos hg, if_pos ⟨Nat.ne_of_gt hq.len_pos, Nat.ne_of_gt hr.len_pos, hg⟩]
    exact ⟨wmOuter_cell_congr K r q _ _ _ hcell _ _, hd⟩
  · rw [if_neg hg, if_neg fun h => hg h.2.2]
    exact ⟨rfl, hm⟩

theorem wordMatch_eq_loops (K : Consts) (hK : CostsOK K = true) (rt : Text) (r : WordShape) (qt : Text) (q : WordShape)
    (hr : WordIn rt r) (hq : WordIn qt q) :
    wordMatch K rt r qt q =
      if lengthCheck K r q = true ∧ jaccardCheck K rt r qt q = true then
        wmOuter (specCtx K rt r qt q) (wmRange r q) (wmRange r q) none else none :=
  (wordMatchM_spec K hK rt r qt q hr hq _ (MInv_new K.matCap).1).1

/-- **history independence of `word_match`**: on whatever matrix earlier comparisons left behind (only its
    shape and sentinels `MInv` are assumed) the result equals the result on a fresh matrix, and the matrix
    handed on satisfies `MInv` again. -/
theorem wordMatch_history_independent (K : Consts) (hK : CostsOK K = true) (rt : Text) (r : WordShape)
    (qt : Text) (q : WordShape) (hr : WordIn rt r) (hq : WordIn qt q) (m : Mat) (hm : MInv m) :
    (wordMatchM K m rt r qt q).1 = wordMatch K rt r qt q ∧ MInv (wordMatchM K m rt r qt q).2 := by
  have h := wordMatchM_spec K hK rt r qt q hr hq m hm
  exact ⟨h.1.trans (wordMatch_eq_loops K hK rt r qt q hr hq).symm, h.2⟩

/-- `word_match` may be evaluated on a fresh matrix of any dimension `n + 2` (one that just fits the two words is
    far cheaper for the kernel than the default `DEFAULT_CAPACITY + 2`) -/
theorem wordMatch_eq_small (n : Nat) {K : Consts} (hK : CostsOK K = true) {rt qt : Text} {r q : WordShape}
    (hr : WordIn rt r) (hq : WordIn qt q) :
    wordMatch K rt r qt q = (wordMatchM K (Mat.new (n + 2)) rt r qt q).1 :=
  (wordMatch_history_independent K hK rt r qt q hr hq _ (MInv_new n).1).1.symm

theorem Adm.mem_wmRange {K : Consts} {rt qt : Text} {r q : WordShape} {rs qs : Nat}
    (h : SliceAdm K rt r qt q rs qs) : rs ∈ wmRange r q ∧ qs ∈ wmRange r q := by
  obtain ⟨a1, a2, a3, _, a5, a6, _⟩ := h
  simp only [wmRange, mem_descRange, wmLeftRaw]
  by_cases hf : q.fin = true
  · have : r.stem ≤ rs := Nat.le_of_not_lt fun h => a5 ⟨hf, h⟩
    rw [if_pos hf]; omega
  · rw [if_neg hf]; omega

section char
variable {K : Consts} (hK : CostsOK K = true) {rt qt : Text} {r q : WordShape} (hr : WordIn rt r) (hq : WordIn qt q)
include hK hr hq

theorem wordMatch_some {p : WMatch × WMatch} (h : wordMatch K rt r qt q = some p) :
    lengthCheck K r q = true ∧ jaccardCheck K rt r qt q = true ∧ ∃ rs qs, SliceAdm K rt r qt q rs qs ∧
      p = newPair K r q rs qs (sliceDist K rt r qt q qs rs) ∧
      ∀ rs' qs', SliceAdm K rt r qt q rs' qs' →
        sliceDist K rt r qt q qs rs ≤ sliceDist K rt r qt q qs' rs' := by
  rw [wordMatch_eq_loops K hK rt r qt q hr hq] at h
  split at h
  · rename_i hg
    obtain ⟨rs, _, qs, _, ha, hp, hmin⟩ := wmOuter_some h
    exact ⟨hg.1, hg.2, rs, qs, ha, hp, fun rs' qs' ha' => hmin rs' ha'.mem_wmRange.1 qs' ha'.mem_wmRange.2 ha'⟩
  · cases h

theorem wordMatch_ne_none (hlc : lengthCheck K r q = true) (hjc : jaccardCheck K rt r qt q = true) {rs qs : Nat}
    (ha : SliceAdm K rt r qt q rs qs) : wordMatch K rt r qt q ≠ none := by
  rw [wordMatch_eq_loops K hK rt r qt q hr hq, if_pos ⟨hlc, hjc⟩]
  exact fun h => wmOuter_eq_none.mp h rs ha.mem_wmRange.1 qs ha.mem_wmRange.2 ha

/-- `rs < rs' ∨ rs' = rs ∧ qs < qs'`: the loops visit `(rs', qs')` before `(rs, qs)` -/
theorem wordMatch_eq_some (hlc : lengthCheck K r q = true) (hjc : jaccardCheck K rt r qt q = true) {rs qs : Nat}
    (ha : SliceAdm K rt r qt q rs qs)
    (hmin : ∀ rs' qs', SliceAdm K rt r qt q rs' qs' →
      sliceDist K rt r qt q qs rs ≤ sliceDist K rt r qt q qs' rs' ∧
      (rs < rs' ∨ rs' = rs ∧ qs < qs' →
        sliceDist K rt r qt q qs rs < sliceDist K rt r qt q qs' rs')) :
    wordMatch K rt r qt q = some (newPair K r q rs qs (sliceDist K rt r qt q qs rs)) := by
  rw [wordMatch_eq_loops K hK rt r qt q hr hq, if_pos ⟨hlc, hjc⟩]
  exact wmOuter_eq_some (pairwise_descRange _ _) (pairwise_descRange _ _) ha.mem_wmRange.1 ha.mem_wmRange.2 ha
    (fun rs' _ qs' _ ha' => hmin rs' qs' ha')

end char

end Lucid
