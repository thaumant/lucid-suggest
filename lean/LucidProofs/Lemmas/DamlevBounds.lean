/-
  LucidProofs.Lemmas.DamlevBounds — `DL.D` between the two textbook distances: the plain Levenshtein distance
  `DL.lev` and the recurrence of `D` at unit cost `DL.DLunit` (unrestricted Damerau-Levenshtein), both over
  prefixes like `D`. A property of table values that every step of a reference recurrence preserves holds of its
  whole table (`LevClosed`); each such step faces a branch of `D` costing between 0.5 and 1.0 per unit, whence
  `5·DLunit ≤ D ≤ 10·DLunit` and `D ≤ 10·lev`. `Lemmas/EditScripts.lean` says what `lev` and `DLunit` measure.
-/
import LucidProofs.Lemmas.DamlevSpec

namespace Lucid
namespace DL

/-- plain Levenshtein distance (unit costs, no transposition) of the prefixes `a[..i]`, `b[..j]` -/
def lev (a b : List Nat) : Nat → Nat → Nat
  | 0, j => j
  | i+1, 0 => i+1
  | i+1, j+1 =>
    min (min (lev a b (i+1) j + 1) (lev a b i (j+1) + 1))
        (lev a b i j + if a.getD i 0 == b.getD j 0 then 0 else 1)

example : lev ("kitten".toList.map (·.toNat)) ("sitting".toList.map (·.toNat)) 6 7 = 3 := by simp [lev]

theorem lev_zero_left (a b : List Nat) (j : Nat) : lev a b 0 j = j := by simp [lev]
theorem lev_zero_right (a b : List Nat) (i : Nat) : lev a b i 0 = i := by cases i <;> simp [lev]
theorem lev_succ_succ (a b : List Nat) (i j : Nat) :
    lev a b (i + 1) (j + 1) = min (min (lev a b (i + 1) j + 1) (lev a b i (j + 1) + 1))
      (lev a b i j + if a.getD i 0 == b.getD j 0 then 0 else 1) := by rw [lev]

theorem lev_step_ins (a b : List Nat) (i j : Nat) : lev a b i (j + 1) ≤ lev a b i j + 1 := by
  cases i with
  | zero => rw [lev_zero_left, lev_zero_left]; exact Nat.le_refl _
  | succ i => rw [lev_succ_succ]; exact Nat.le_trans (Nat.min_le_left _ _) (Nat.min_le_left _ _)

theorem lev_step_del (a b : List Nat) (i j : Nat) : lev a b (i + 1) j ≤ lev a b i j + 1 := by
  cases j with
  | zero => rw [lev_zero_right, lev_zero_right]; exact Nat.le_refl _
  | succ j => rw [lev_succ_succ]; exact Nat.le_trans (Nat.min_le_left _ _) (Nat.min_le_right _ _)

theorem lev_step_sub (a b : List Nat) (i j : Nat) :
    lev a b (i + 1) (j + 1) ≤ lev a b i j + if a.getD i 0 == b.getD j 0 then 0 else 1 := by
  rw [lev_succ_succ]; exact Nat.min_le_right _ _

/-- unrestricted Damerau-Levenshtein distance of the prefixes `a[..i]`, `b[..j]`, unit costs
    (Lowrance-Wagner recurrence: a transposition across gaps costs the gap lengths plus one) -/
def DLunit (a b : List Nat) : Nat → Nat → Nat
  | 0, 0 => 0
  | i+1, 0 => DLunit a b i 0 + 1
  | 0, j+1 => DLunit a b 0 j + 1
  | i+1, j+1 =>
    let l1 := lastOcc a i (b.getD j 0)
    let l2 := lastOcc b j (a.getD i 0)
    let base := min (min (DLunit a b (i+1) j + 1) (DLunit a b i (j+1) + 1))
                    (DLunit a b i j + if a.getD i 0 == b.getD j 0 then 0 else 1)
    if h : l1 = 0 ∨ l2 = 0 then base
    else
      have : l1 - 1 + (l2 - 1) < i + 1 + (j + 1) := by
        have := lastOcc_le a i (b.getD j 0); have := lastOcc_le b j (a.getD i 0); omega
      min base (DLunit a b (l1-1) (l2-1) + ((i - l1) + (j - l2) + 1))
termination_by i j => i + j

-- "ca" → "abc" is 2 in the unrestricted metric (3 in the restricted one)
example : DLunit [99, 97] [97, 98, 99] 2 3 = 2 := by simp [DLunit, lastOcc]

theorem DLunit_zero_zero (a b : List Nat) : DLunit a b 0 0 = 0 := by simp [DLunit]
theorem DLunit_succ_zero (a b : List Nat) (i : Nat) : DLunit a b (i + 1) 0 = DLunit a b i 0 + 1 := by rw [DLunit]
theorem DLunit_zero_succ (a b : List Nat) (j : Nat) : DLunit a b 0 (j + 1) = DLunit a b 0 j + 1 := by rw [DLunit]

theorem DLunit_succ_succ (a b : List Nat) (i j : Nat) :
    DLunit a b (i+1) (j+1) =
      if lastOcc a i (b.getD j 0) = 0 ∨ lastOcc b j (a.getD i 0) = 0 then
        min (min (DLunit a b (i+1) j + 1) (DLunit a b i (j+1) + 1))
            (DLunit a b i j + if a.getD i 0 == b.getD j 0 then 0 else 1)
      else
        min (min (min (DLunit a b (i+1) j + 1) (DLunit a b i (j+1) + 1))
                 (DLunit a b i j + if a.getD i 0 == b.getD j 0 then 0 else 1))
            (DLunit a b (lastOcc a i (b.getD j 0) - 1) (lastOcc b j (a.getD i 0) - 1) +
              ((i - lastOcc a i (b.getD j 0)) + (j - lastOcc b j (a.getD i 0)) + 1)) := by
  rw [DLunit]; simp only []; split <;> rfl

theorem DLunit_succ_succ_le_min3 (a b : List Nat) (i j : Nat) :
    DLunit a b (i+1) (j+1) ≤ min (min (DLunit a b (i+1) j + 1) (DLunit a b i (j+1) + 1))
      (DLunit a b i j + if a.getD i 0 == b.getD j 0 then 0 else 1) := by
  rw [DLunit_succ_succ]; split
  · exact Nat.le_refl _
  · exact Nat.min_le_left _ _

theorem DLunit_step_ins (a b : List Nat) (i j : Nat) : DLunit a b i (j + 1) ≤ DLunit a b i j + 1 := by
  cases i with
  | zero => rw [DLunit_zero_succ]; exact Nat.le_refl _
  | succ i =>
    exact Nat.le_trans (DLunit_succ_succ_le_min3 a b i j) (Nat.le_trans (Nat.min_le_left _ _) (Nat.min_le_left _ _))

theorem DLunit_step_del (a b : List Nat) (i j : Nat) : DLunit a b (i + 1) j ≤ DLunit a b i j + 1 := by
  cases j with
  | zero => rw [DLunit_succ_zero]; exact Nat.le_refl _
  | succ j =>
    exact Nat.le_trans (DLunit_succ_succ_le_min3 a b i j) (Nat.le_trans (Nat.min_le_left _ _) (Nat.min_le_right _ _))

theorem DLunit_step_sub (a b : List Nat) (i j : Nat) :
    DLunit a b (i + 1) (j + 1) ≤ DLunit a b i j + if a.getD i 0 == b.getD j 0 then 0 else 1 :=
  Nat.le_trans (DLunit_succ_succ_le_min3 a b i j) (Nat.min_le_right _ _)

theorem DLunit_step_trans (a b : List Nat) (i j : Nat) (h1 : lastOcc a i (b.getD j 0) ≠ 0)
    (h2 : lastOcc b j (a.getD i 0) ≠ 0) :
    DLunit a b (i + 1) (j + 1) ≤ DLunit a b (lastOcc a i (b.getD j 0) - 1) (lastOcc b j (a.getD i 0) - 1) +
      ((i - lastOcc a i (b.getD j 0)) + (j - lastOcc b j (a.getD i 0)) + 1) := by
  rw [DLunit_succ_succ, if_neg (fun h => h.elim h1 h2)]; exact Nat.min_le_right _ _

/-- `P` is preserved by the Levenshtein steps over `a`, `b`, which `lev` and `DLunit` have in common; border cells
    are written by the same steps -/
structure LevClosed (a b : List Nat) (P : Nat → Nat → Nat → Prop) : Prop where
  zero : P 0 0 0
  ins : ∀ i j v, P i j v → P i (j+1) (v+1)
  del : ∀ i j v, P i j v → P (i+1) j (v+1)
  sub : ∀ i j v, P i j v → P (i+1) (j+1) (v + if a.getD i 0 == b.getD j 0 then 0 else 1)

theorem LevClosed.lev {a b : List Nat} {P : Nat → Nat → Nat → Prop} (h : LevClosed a b P) :
    ∀ i j, P i j (lev a b i j) := by
  intro i
  induction i with
  | zero =>
    intro j
    induction j with
    | zero => rw [lev_zero_left]; exact h.zero
    | succ j ih => rw [lev_zero_left] at ih ⊢; exact h.ins 0 j j ih
  | succ i ihi =>
    intro j
    induction j with
    | zero => have := ihi 0; rw [lev_zero_right] at this ⊢; exact h.del i 0 i this
    | succ j ihj =>
      rw [lev_succ_succ]
      exact of_min (of_min (h.ins (i+1) j _ ihj) (h.del i (j+1) _ (ihi (j+1)))) (h.sub i j _ (ihi j))

theorem LevClosed.dlunit {a b : List Nat} {P : Nat → Nat → Nat → Prop} (h : LevClosed a b P)
    (htr : ∀ i j v, lastOcc a i (b.getD j 0) ≠ 0 → lastOcc b j (a.getD i 0) ≠ 0 →
      P (lastOcc a i (b.getD j 0) - 1) (lastOcc b j (a.getD i 0) - 1) v →
      P (i+1) (j+1) (v + ((i - lastOcc a i (b.getD j 0)) + (j - lastOcc b j (a.getD i 0)) + 1))) :
    ∀ i j, P i j (DLunit a b i j) := by
  intro i j
  induction i, j using DLunit.induct a b with
  | case1 => rw [DLunit_zero_zero]; exact h.zero
  | case2 i ih => rw [DLunit_succ_zero]; exact h.del i 0 _ ih
  | case3 j ih => rw [DLunit_zero_succ]; exact h.ins 0 j _ ih
  | case4 i j l1 l2 hz hA hB hC =>
    rw [DLunit_succ_succ, if_pos hz]
    exact of_min (of_min (h.ins (i+1) j _ hA) (h.del i (j+1) _ hB)) (h.sub i j _ hC)
  | case5 i j l1 l2 hz _ hA hB hC hT =>
    rw [DLunit_succ_succ, if_neg hz]
    exact of_min (of_min (of_min (h.ins (i+1) j _ hA) (h.del i (j+1) _ hB)) (h.sub i j _ hC))
      (htr i j _ (fun e => hz (.inl e)) (fun e => hz (.inr e)) hT)

/-! ### the sandwich `5·DLunit ≤ D ≤ 10·DLunit`, and `D ≤ 10·lev`

Step by step: a step of the unit-cost table of size `e` (`u' ≤ u + e`) faces a branch of `D` of the same kind whose
cost `c` lies between `5·e` and `10·e`. -/

theorem sandwich_lo {u u' v c e : Nat} (hs : u' ≤ u + e) (ih : 5 * u ≤ v) (hc : 5 * e ≤ c) : 5 * u' ≤ c + v := by
  omega

theorem sandwich_hi {d d' v c e : Nat} (hs : d' ≤ c + d) (ih : d ≤ 10 * v) (hc : c ≤ 10 * e) :
    d' ≤ 10 * (v + e) := by
  omega

theorem D_le_closed (K : Consts) (a b : CWord) (ha : CostLe a) (hb : CostLe b) :
    LevClosed a.ch b.ch (fun i j v => D K a b i j ≤ 10 * v) where
  zero := Nat.le_of_eq (D_zero_zero K a b)
  ins i j _ ih := sandwich_hi (D_add_k K a b i j) ih (k_le b hb j)
  del i j _ ih := sandwich_hi (D_del_k K a b i j) ih (k_le a ha i)
  sub i j _ ih := sandwich_hi (D_succ_succ_le_sub K a b i j) ih (sub_le_ne a b ha hb i j)

theorem D_le_lev (K : Consts) (a b : CWord) (ha : CostLe a) (hb : CostLe b) :
    ∀ i j, D K a b i j ≤ 10 * lev a.ch b.ch i j := (D_le_closed K a b ha hb).lev

theorem D_le_DLunit (K : Consts) (hT : K.costTrans ≤ 10) (a b : CWord) (ha : CostLe a) (hb : CostLe b) :
    ∀ i j, D K a b i j ≤ 10 * DLunit a.ch b.ch i j :=
  (D_le_closed K a b ha hb).dlunit fun i j _ n1 n2 ih =>
    sandwich_hi (D_succ_succ_le_trans K a b i j n1 n2) ih (Nat.mul_le_mul_right _ hT)

theorem D_ge_DLunit (K : Consts) (hK : KOK K) (a b : CWord)
    (ha : Aligned a) (hb : Aligned b) (hpa : CostPos a) (hpb : CostPos b) (h5a : CostMul5 a) (h5b : CostMul5 b) :
    ∀ i j, i ≤ a.len → j ≤ b.len → 5 * DLunit a.ch b.ch i j ≤ D K a b i j := by
  refine D_branch_ind K a b (fun i j v => i ≤ a.len → j ≤ b.len → 5 * DLunit a.ch b.ch i j ≤ v) ?_ ?_ ?_ ?_ ?_ ?_ ?_
  · intro _ _; exact Nat.le_of_eq (congrArg (5 * ·) (DLunit_zero_zero _ _))
  · intro i v ih hi hj
    exact sandwich_lo (DLunit_step_del a.ch b.ch i 0) (ih (Nat.le_of_lt hi) hj) (k_ge5 a hpa h5a ha i hi)
  · intro j v ih hi hj
    exact sandwich_lo (DLunit_step_ins a.ch b.ch 0 j) (ih hi (Nat.le_of_lt hj)) (k_ge5 b hpb h5b hb j hj)
  · intro i j v ih hi hj
    exact sandwich_lo (DLunit_step_ins a.ch b.ch (i+1) j) (ih hi (Nat.le_of_lt hj)) (indel_ge5 K hK b hpb h5b hb j hj)
  · intro i j v ih hi hj
    exact sandwich_lo (DLunit_step_del a.ch b.ch i (j+1)) (ih (Nat.le_of_lt hi) hj) (indel_ge5 K hK a hpa h5a ha i hi)
  · intro i j v ih hi hj
    exact sandwich_lo (DLunit_step_sub a.ch b.ch i j) (ih (Nat.le_of_lt hi) (Nat.le_of_lt hj))
      (sub_ge_ne a b i j (k_ge5 a hpa h5a ha i hi))
  · intro i j v n1 n2 ih hi hj
    have := lastOcc_le a.ch i (b.c j); have := lastOcc_le b.ch j (a.c i)
    exact sandwich_lo (DLunit_step_trans a.ch b.ch i j n1 n2) (ih (by omega) (by omega))
      (Nat.le_of_eq (congrArg (· * _) hK.trans.symm))

end DL
end Lucid
