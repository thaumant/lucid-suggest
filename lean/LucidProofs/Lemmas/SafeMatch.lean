/-
  LucidProofs.Lemmas.SafeMatch — trap sites of the matching layer (`LucidModel/Safe.lean`) never fire:
  `wordMatchSafe` (`matching/word.rs`, `word_match.rs`), `tmStepSafe` … `textMatchSafe` (`matching/text.rs`),
  `hitSafe` (`search/score.rs`, `filter.rs`, `highlight.rs`).
-/
import LucidModel.Safe
import LucidProofs.Lemmas.PairOK
import LucidProofs.Lemmas.TextMatchShape
import LucidProofs.Lemmas.DamlevChecked

namespace Lucid
open DL

/-! ## `word_match` -/

/-- the trap sites of the inner loop lie at slices within the two words: the cell read and the `debug_assert!`s of
    `new_pair` come after the guards `qslice ≤ |q|`, `rslice ≤ |r|` -/
theorem wmInnerSafe_of_cells (c : WMCtx) (m : Mat) (rs : Nat) (l : List Nat)
    (h : ∀ qs, qs ≤ c.q.len → rs ≤ c.r.len →
      (qs + 1) * m.size + (rs + 1) < m.raw.size ∧ newPairSafe c.r c.q rs qs = true)
    (best : Option (WMatch × WMatch)) : wmInnerSafe c m rs l best = true := by
  fun_induction wmInnerSafe c m rs l best <;> try assumption
  · rfl
  · rfl
  · rename_i qs _ _ h1 h2 _ _ _ _ ih2 ih1
    obtain ⟨hc, hp⟩ := h qs (Nat.le_of_not_gt h1) (Nat.le_of_not_gt h2)
    simp only [hc, hp, decide_true, Bool.true_and]
    split
    · exact ih2
    · split
      · rfl
      · exact ih1

theorem wmOuterSafe_ok (c : WMCtx) (m : Mat) (hwf : m.raw.size = m.size * m.size)
    (hsz : max c.q.len c.r.len + 2 ≤ m.size) (hr : c.r.lo ≤ c.r.hi) (hq : c.q.lo ≤ c.q.hi)
    (range l : List Nat) (best : Option (WMatch × WMatch)) :
    wmOuterSafe c m range l best = true := by
  have hq2 : c.q.len + 2 ≤ m.size := Nat.le_trans (Nat.add_le_add_right (Nat.le_max_left ..) 2) hsz
  have hr2 : c.r.len + 2 ≤ m.size := Nat.le_trans (Nat.add_le_add_right (Nat.le_max_right ..) 2) hsz
  induction l generalizing best with
  | nil => rfl
  | cons rs rest ih =>
    rw [wmOuterSafe, ih, Bool.and_true]
    refine wmInnerSafe_of_cells c m rs range (fun qs h1 h2 => ⟨?_, ?_⟩) best
    · rw [hwf]
      exact flat_lt m.size _ _ (Nat.lt_of_lt_of_le (Nat.add_lt_add_right (Nat.lt_succ_of_le h1) 1) hq2)
        (Nat.lt_of_lt_of_le (Nat.add_lt_add_right (Nat.lt_succ_of_le h2) 1) hr2)
    · rw [newPairSafe, decide_eq_true (Nat.add_le_of_le_sub' hr h2), decide_eq_true (Nat.add_le_of_le_sub' hq h1)]; rfl

theorem viewSafe_of_wordIn {t : Text} {w : WordShape} (h : WordIn t w) : viewSafe t w = true := by
  obtain ⟨h1, h2, h3⟩ := h
  rw [viewSafe, decide_eq_true (Nat.le_of_lt h1), decide_eq_true h2, decide_eq_true (h3 ▸ h2)]; rfl

/-- **`word_match` never traps** on a reused matrix of the right shape: both word views are in range, every
    unchecked access of `distance` is in range (C19), `stem - 1` does not underflow, the checked cell read is
    inside the flat buffer and the `debug_assert!`s of `new_pair` hold. -/
theorem wordMatchSafeM_ok (K : Consts) (hK : CostsOK K = true) (rt : Text) (r : WordShape) (qt : Text) (q : WordShape)
    (hr : WordIn rt r) (hq : WordIn qt q) (hqs : 1 ≤ q.stem) (m : Mat) (hm : MInv m) :
    wordMatchSafeM K m rt r qt q = true := by
  have ha := cword_aligned K qt q hq.2.2
  have hb := cword_aligned K rt r hr.2.2
  have hleft : wmLeftSafe r q = true := by
    unfold wmLeftSafe wmLeftRaw
    split
    · exact decide_eq_true (Nat.le_trans hqs (Nat.le_max_left _ _))
    · exact decide_eq_true hqs
  have hinv := (distance_refines K _ _ ha hb (cword_costLe K hK qt q) (cword_costLe K hK rt r) m hm).2.1
  obtain ⟨hdist, hsize⟩ := distanceC_spec K m _ _ ha hb
  rw [cword_len_of_wordIn K hq, cword_len_of_wordIn K hr] at hsize
  rw [wordMatchSafeM, viewSafe_of_wordIn hr, viewSafe_of_wordIn hq, hdist, hleft]
  -- each of the four early exits is `true`
  simp only [Bool.true_and, ite_eq_left_iff]
  intro _ _ _ _
  exact wmOuterSafe_ok _ _ hinv.wf hsize (Nat.le_of_lt hr.1) (Nat.le_of_lt hq.1) _ _ _

theorem wordMatchSafe_ok (K : Consts) (hK : CostsOK K = true) (rt : Text) (r : WordShape) (qt : Text) (q : WordShape)
    (hr : WordIn rt r) (hq : WordIn qt q) (hqs : 1 ≤ q.stem) : wordMatchSafe K rt r qt q = true :=
  wordMatchSafeM_ok K hK rt r qt q hr hq hqs _ (MInv_new K.matCap).1

/-! ## `text_match` -/

theorem length_setAt (l : List (Option WMatch)) (i : Nat) (m : WMatch) : (setAt l i m).length = l.length :=
  setAt_length l i m

/-- trap sites of a join closure that depend on the two adjacent words only: the gap, the joined stem, and the
    `debug_assert!`s and the subtraction of `split` for a match that carries the first word's offset -/
theorem adjacent_safe {a b : WordShape} (ha : a.lo < a.hi) (hab : a.hi ≤ b.lo) (hb : b.lo < b.hi) :
    a.distSafe b = true ∧ joinSafe a b = true ∧ ∀ m : WMatch, m.offset = a.offset → splitSafe m a b = true := by
  refine ⟨?_, ?_, fun m ho => ?_⟩
  · simp only [WordShape.distSafe, Bool.or_eq_true, decide_eq_true_eq]; omega
  · simp only [joinSafe, decide_eq_true_eq]; omega
  · simp only [splitSafe, Bool.and_eq_true, Bool.or_eq_true, decide_eq_true_eq]
    exact ⟨⟨by omega, Or.inl ho.symm⟩, by omega⟩

section scan
variable {K : Consts} {rt qt : Text} (hrt : TextOK rt) (hqt : TextOK qt) (hwm : WordMatchOK K rt qt)
include hrt hqt hwm

omit hrt hqt hwm in
theorem candScoreSafe_of_pair {r q : WordShape} {p : WMatch × WMatch} (hp : PairOK r q p) :
    candScoreSafe p.1 = true := by
  have h1 := hp.score
  have h2 := hp.r_sub0
  simp only [candScoreSafe, decide_eq_true_eq]
  simp only [WMatch.matchLen]
  omega

/-- **one step of the scan never traps**: the `dist`/`join` subtractions, both `word_match` calls on joined
    words, the `debug_assert!`s and the subtraction of `split`, the three stores into the scratch vectors and the
    `usize` score of the candidate comparison -/
theorem tmStepSafe_ok (hK : CostsOK K = true) {s : TMState} {r q : WordShape} (hr : r ∈ rt.words)
    (hq : q ∈ qt.words) (hs : ScanInv K rt qt q s) : tmStepSafe K rt qt q s r = true := by
  have hrI := hrt.wordIn hr
  have hqI := hqt.wordIn hq
  have hro : inRangeOpt s.rm.length r.offset = true := decide_eq_true (hs.rlen ▸ hrt.offsetsOK.lt_of_mem hr)
  have hqo : inRangeOpt s.qm.length q.offset = true := decide_eq_true (hs.qlen ▸ hqt.offsetsOK.lt_of_mem hq)
  have e1 : decide (q.lo ≤ q.hi) = true := decide_eq_true (Nat.le_of_lt hqI.1)
  have e2 : decide (r.lo ≤ r.hi) = true := decide_eq_true (Nat.le_of_lt hrI.1)
  unfold tmStepSafe
  rw [Bool.and_eq_true]
  refine ⟨?_, ?_⟩
  · -- closure 1
    split
    · rfl
    · rename_i rnext hnext
      obtain ⟨hmem, hoff, hle⟩ := hrt.next hr hnext
      obtain ⟨hjw, hjs⟩ := hrt.join_wordIn hr hnext
      obtain ⟨e3, e4, e6⟩ := adjacent_safe hrI.1 hle (hrt.wordIn hmem).1
      simp only [e1, e2, e3, e4, wordMatchSafe_ok K hK rt _ qt q hjw hqI (hqt.stems q hq), Bool.true_and]
      split
      · rfl
      · split
        · rfl
        · rfl
        · split
          · rfl
          · rename_i rmatch qmatch hm
            have hp := hwm (r.join rnext) q (rmatch, qmatch) hjw hqI hjs (hqt.stems q hq) hm
            simp only [e6 _ hp.r_off, Bool.true_and]
            split
            · rfl
            · rename_i r1 r2 hsp
              obtain ⟨rfl, rfl⟩ := Prod.mk.inj (split_eq_some.mp hsp).2
              have hno : inRangeOpt s.rm.length rnext.offset = true :=
                decide_eq_true (hs.rlen ▸ hrt.offsetsOK.lt_of_mem hmem)
              have hqm : qmatch.offset = q.offset := hp.q_off
              simp only [hqm, hro, hqo, hno]; rfl
  · split
    · rfl
    · rw [Bool.and_eq_true]
      refine ⟨?_, ?_⟩
      · -- closure 2
        split
        · rfl
        · rename_i qnext hnext
          obtain ⟨hmem, hoff, hle⟩ := hqt.next hq hnext
          obtain ⟨hjw, hjs⟩ := hqt.join_wordIn hq hnext
          obtain ⟨e3, e4, e6⟩ := adjacent_safe hqI.1 hle (hqt.wordIn hmem).1
          simp only [e1, e2, e3, e4, wordMatchSafe_ok K hK rt r qt _ hrI hjw hjs, Bool.true_and]
          split
          · rfl
          · split
            · rfl
            · rfl
            · split
              · rfl
              · rename_i rmatch qmatch hm
                have hp := hwm r (q.join qnext) (rmatch, qmatch) hrI hjw (hrt.stems r hr) hjs hm
                simp only [e6 _ hp.q_off, Bool.true_and]
                split
                · rfl
                · rename_i q1 q2 hsp
                  obtain ⟨rfl, rfl⟩ := Prod.mk.inj (split_eq_some.mp hsp).2
                  have hno : inRangeOpt s.qm.length qnext.offset = true :=
                    decide_eq_true (hs.qlen ▸ hqt.offsetsOK.lt_of_mem hmem)
                  have hrm : rmatch.offset = r.offset := hp.r_off
                  simp only [hrm, hro, hqo, hno]; rfl
      · -- closure 3
        split
        · rfl
        · rw [wordMatchSafe_ok K hK rt r qt q hrI hqI (hqt.stems q hq), Bool.true_and]
          split
          · rfl
          · rename_i r2 q2 hm
            rw [candScoreSafe_of_pair (hwm r q (r2, q2) hrI hqI (hrt.stems r hr) (hqt.stems q hq) hm), Bool.true_and]
            split
            · rename_i m0 q0 hc
              obtain ⟨r', hr', hm', _⟩ := hs.cand _ hc
              exact candScoreSafe_of_pair
                (hwm r' q (m0, q0) (hrt.wordIn hr') hqI (hrt.stems r' hr') (hqt.stems q hq) hm')
            · rfl
theorem tmScanSafe_ok (hK : CostsOK K = true) {q : WordShape} (hq : q ∈ qt.words) (rs : List WordShape)
    (hrs : ∀ r ∈ rs, r ∈ rt.words) {s : TMState} (hs : ScanInv K rt qt q s) :
    tmScanSafe K rt qt q rs s = true := by
  induction rs generalizing s with
  | nil => rfl
  | cons r rs ih =>
    have hrs' : ∀ r ∈ rs, r ∈ rt.words := fun x hx => hrs x (by simp [hx])
    have hr := hrs r (by simp)
    have e1 : inRangeOpt s.rm.length r.offset = true := by
      simp only [inRangeOpt, decide_eq_true_eq, hs.rlen]; exact hrt.offsetsOK.lt_of_mem hr
    unfold tmScanSafe
    rw [e1, Bool.true_and]
    split
    · exact ih hrs' hs
    · rename_i hfree
      rw [tmStepSafe_ok hrt hqt hwm hK hr hq hs, Bool.true_and]
      rcases tmStep_spec hrt.offsetsOK hqt.offsetsOK hq hs hr (by simpa using hfree) with ⟨_, h⟩ | ⟨_, _, h, _⟩
      · simp [h]
      · simp only []
        split
        · rfl
        · exact ih hrs' h

theorem tmQuerySafe_ok (hK : CostsOK K = true) {q : WordShape} (hq : q ∈ qt.words) {s : TMState}
    (hs : SInv rt qt s) : tmQuerySafe K rt qt s q = true := by
  have e1 : inRangeOpt s.qm.length q.offset = true := by
    simp only [inRangeOpt, decide_eq_true_eq, hs.qlen]; exact hqt.offsetsOK.lt_of_mem hq
  unfold tmQuerySafe
  rw [e1, Bool.true_and]
  split
  · rfl
  · rename_i hqf
    have hs0 : ScanInv K rt qt q { s with cand := none } := hs.scanInv (by simpa using hqf)
    rw [tmScanSafe_ok hrt hqt hwm hK hq rt.words (fun _ h => h) hs0, Bool.true_and]
    -- after the scan: a join fired and nothing is pending, or the pending candidate is in range
    rcases tmScan_spec hrt.offsetsOK hqt.offsetsOK hq rt.words _ (fun _ h => h) hs0 with h | ⟨_, _, h, _⟩
    · obtain ⟨_, _, _, _, _, _, e⟩ := h; rw [e]; rfl
    · unfold tmCommitSafe
      split
      · rfl
      · rename_i hc
        obtain ⟨h1, h2, _⟩ := h.cand_range hrt.offsetsOK hc
        simp only [inRangeOpt, Bool.and_eq_true, decide_eq_true_eq, h.rlen, h.qlen]
        exact ⟨h1, h2 ▸ hqt.offsetsOK.lt_of_mem hq⟩

theorem tmFoldSafe_ok (hK : CostsOK K = true) (qs : List WordShape) (hqs : ∀ q ∈ qs, q ∈ qt.words) {s : TMState}
    (hs : SInv rt qt s) : tmFoldSafe K rt qt qs s = true := by
  induction qs generalizing s with
  | nil => rfl
  | cons q qs ih =>
    have hq := hqs q (by simp)
    unfold tmFoldSafe
    rw [tmQuerySafe_ok hrt hqt hwm hK hq hs, Bool.true_and]
    exact ih (fun x hx => hqs x (by simp [hx])) ((tmQuery_spec hrt.offsetsOK hqt.offsetsOK hs hq).sinv hs)

theorem Fired.qspan {q : WordShape} (hq : q ∈ qt.words) {rms qms : List WMatch} (h : Fired K rt qt q rms qms) :
    ∀ m ∈ qms, m.lo ≤ m.hi := by
  have bq := Nat.le_of_lt (hqt.bounds q hq).1
  cases h with
  | plain hr hm =>
    have hp := hwm _ q _ (hrt.wordIn hr) (hqt.wordIn hq) (hrt.stems _ hr) (hqt.stems q hq) hm
    simpa only [List.mem_singleton, forall_eq, hp.q_lo, hp.q_hi] using bq
  | joinR hr hn _ hm =>
    obtain ⟨hjw, hjs⟩ := hrt.join_wordIn hr hn
    have hp := hwm _ q _ hjw (hqt.wordIn hq) hjs (hqt.stems q hq) hm
    simpa only [List.mem_singleton, forall_eq, hp.q_lo, hp.q_hi] using bq
  | joinQ hr hn _ hm hsp =>
    obtain ⟨_, rfl⟩ := split_eq_some.mp hsp
    have bn := Nat.le_of_lt (hqt.bounds _ (hqt.next hq hn).1).1
    simpa only [List.mem_cons, List.not_mem_nil, or_false, forall_eq_or_imp, forall_eq] using ⟨bq, bn⟩

end scan

/-- **`text_match` never traps** on two tokenised texts -/
theorem textMatchSafe_ok (K : Consts) (hK : CostsOK K = true) (hT : ThresholdOK K = true) {rt qt : Text}
    (hrt : TextOK rt) (hqt : TextOK qt) : textMatchSafe K rt qt = true :=
  tmFoldSafe_ok hrt hqt (wordMatchOK K hK hT rt qt) hK qt.words (fun _ h => h)
    ⟨List.length_replicate, List.length_replicate⟩

theorem textMatch_qmatches_span (K : Consts) (hK : CostsOK K = true) (hT : ThresholdOK K = true) {rt qt : Text}
    (hrt : TextOK rt) (hqt : TextOK qt) : ∀ m ∈ (textMatch K rt qt).2, m.lo ≤ m.hi := fun m hm =>
  ((textMatch_of_fired (P := fun _ => True) hrt.offsetsOK hqt.offsetsOK fun _ hq _ _ hF =>
    ⟨fun _ _ => trivial, hF.qspan hrt hqt (wordMatchOK K hK hT rt qt) hq⟩).2.2 m hm).2

/-- **scoring, filtering and highlighting one record never trap**: `text_match`, the `usize` subtraction
    `word_len - match_len` of `score_tails_down`, the `len()` of every word and match, and every slice of the
    title taken by `highlight` -/
theorem hitSafe_ok (K : Consts) (hK : CostsOK K = true) (hT : ThresholdOK K = true) (order : List ScoreType)
    {q : Text} {r : Record} (hq : TextOK q) (hr : TextOK r.title) : hitSafe K order q r = true := by
  have hwm := wordMatchOK K hK hT r.title q
  obtain ⟨_, hrm⟩ := textMatch_rmatches_ok hr hq hwm
  have hqm := textMatch_qmatches_span K hK hT hr hq
  unfold hitSafe
  rw [textMatchSafe_ok K hK hT hr hq, Bool.true_and]
  have hrmE : (scoreHit K order q r).rmatches = (textMatch K r.title q).1 := rfl
  have hqmE : (scoreHit K order q r).qmatches = (textMatch K r.title q).2 := rfl
  simp only [hrmE, hqmE, Bool.and_eq_true]
  refine ⟨⟨⟨?_, ?_⟩, ?_⟩, ?_⟩
  · rw [scoreTailsSafe, List.all_eq_true]
    intro m hm
    have h := hrm m hm
    have h1 := h.le
    have h2 := h.sub0
    simp only [decide_eq_true_eq]
    simp only [WMatch.matchLen, WMatch.wordLen]; omega
  · rw [List.all_eq_true]
    intro w hw
    have := hr.bounds w hw
    simp only [decide_eq_true_eq]; omega
  · rw [List.all_eq_true]
    intro m hm
    simp only [decide_eq_true_eq]
    rcases List.mem_append.mp hm with h | h
    · obtain ⟨w, hw, e1, e2⟩ := (hrm m h).word
      have := hr.bounds w (List.mem_of_getElem? hw)
      omega
    · exact hqm m h
  · exact hlSafe_of_rmatches hr hrm

end Lucid
