/-
  LucidProofs.Lemmas.DamlevSpec — recursive specification `DL.D` of the weighted Damerau-Levenshtein
  distance computed by `Lucid.distanceM` (`matching/damlev/mod.rs`), and its own laws.
  Distances are in tenths (0.5 = 5, 1.0 = 10).
-/
import LucidModel.Damlev
import LucidProofs.Lemmas.Facts
import LucidProofs.Lemmas.ListFacts

namespace Lucid
namespace DL

/-- 1-based position of the last occurrence of `c` among the first `n` elements of `l`, 0 if none -/
def lastOcc (l : List Nat) : Nat → Nat → Nat
  | 0, _ => 0
  | n+1, c => if l.getD n 0 = c then n+1 else lastOcc l n c

theorem lastOcc_le (l : List Nat) (n c : Nat) : lastOcc l n c ≤ n := by
  induction n with
  | zero => simp [lastOcc]
  | succ n ih => unfold lastOcc; split <;> omega

theorem lastOcc_spec (l : List Nat) (n c : Nat) (h : lastOcc l n c ≠ 0) :
    l.getD (lastOcc l n c - 1) 0 = c := by
  induction n with
  | zero => simp [lastOcc] at h
  | succ n ih =>
    unfold lastOcc at h ⊢
    split
    · rename_i e; simpa using e
    · rename_i e; rw [if_neg e] at h; exact ih h

theorem lastOcc_ext (l l' : List Nat) (n c : Nat) (h : ∀ k, k < n → l.getD k 0 = l'.getD k 0) :
    lastOcc l n c = lastOcc l' n c := by
  induction n with
  | zero => simp [lastOcc]
  | succ n ih =>
    unfold lastOcc
    rw [h n (by omega), ih (fun k hk => h k (by omega))]

def dbl (w : CWord) (i : Nat) : Bool := decide (i > 0) && (w.c i == w.c (i - 1))

/-- `cost_del` and `cost_add` of `distance` -/
def indel (K : Consts) (w : CWord) (i : Nat) : Nat :=
  min (w.k i) (if dbl w i then K.costDouble else K.costSingle)

def sub (a b : CWord) (i j : Nat) : Nat := if a.c i == b.c j then 0 else max (a.k i) (b.k j)

/-- the value the inner loop computes from the four cells it reads -/
def cellVal (K : Consts) (a b : CWord) (i j l1 l2 vadd vdel vsub vtr : Nat) : Nat :=
  min4 (indel K b j + vadd) (indel K a i + vdel) (sub a b i j + vsub)
       (K.costTrans * ((i - l1) + (j - l2) + 1) + vtr)

/-- Specification: distance between the first `i` characters of `a` and the first `j` characters of `b`. -/
def D (K : Consts) (a b : CWord) : Nat → Nat → Nat
  | 0, 0 => 0
  | i+1, 0 => D K a b i 0 + a.k i
  | 0, j+1 => D K a b 0 j + b.k j
  | i+1, j+1 =>
    let l1 := lastOcc a.ch i (b.c j)
    let l2 := lastOcc b.ch j (a.c i)
    if h : l1 = 0 ∨ l2 = 0 then
      min (min (indel K b j + D K a b (i+1) j) (indel K a i + D K a b i (j+1))) (sub a b i j + D K a b i j)
    else
      have : l1 - 1 + (l2 - 1) < i + 1 + (j + 1) := by
        have := lastOcc_le a.ch i (b.c j); have := lastOcc_le b.ch j (a.c i); omega
      cellVal K a b i j l1 l2 (D K a b (i+1) j) (D K a b i (j+1)) (D K a b i j) (D K a b (l1-1) (l2-1))
termination_by i j => i + j

theorem D_zero_zero (K : Consts) (a b : CWord) : D K a b 0 0 = 0 := by simp [D]
theorem D_succ_zero (K : Consts) (a b : CWord) (i) : D K a b (i+1) 0 = D K a b i 0 + a.k i := by rw [D]
theorem D_zero_succ (K : Consts) (a b : CWord) (j) : D K a b 0 (j+1) = D K a b 0 j + b.k j := by rw [D]

theorem D_succ_succ (K : Consts) (a b : CWord) (i j : Nat) :
    D K a b (i+1) (j+1) =
      if lastOcc a.ch i (b.c j) = 0 ∨ lastOcc b.ch j (a.c i) = 0 then
        min (min (indel K b j + D K a b (i+1) j) (indel K a i + D K a b i (j+1))) (sub a b i j + D K a b i j)
      else cellVal K a b i j (lastOcc a.ch i (b.c j)) (lastOcc b.ch j (a.c i))
        (D K a b (i+1) j) (D K a b i (j+1)) (D K a b i j)
        (D K a b (lastOcc a.ch i (b.c j) - 1) (lastOcc b.ch j (a.c i) - 1)) := by
  rw [D]; simp only []; split <;> rfl

/-! ### the branches of the recurrence

Everything below reasons about `D (i+1) (j+1)` through these: it is below each of its four branches
(`D_succ_succ_le_*`: upper bounds follow one branch) and it is one of them (`D_branch_ind`: whatever every branch
preserves holds of `D`). -/

theorem min4_le_min3 (x y z t : Nat) : min4 x y z t ≤ min (min x y) z :=
  Nat.le_min.mpr ⟨Nat.min_le_left _ _, Nat.le_trans (Nat.min_le_right _ _) (Nat.min_le_left _ _)⟩

theorem D_succ_succ_le_min3 (K : Consts) (a b : CWord) (i j : Nat) :
    D K a b (i+1) (j+1) ≤
      min (min (indel K b j + D K a b (i+1) j) (indel K a i + D K a b i (j+1))) (sub a b i j + D K a b i j) := by
  rw [D_succ_succ]; split
  · exact Nat.le_refl _
  · exact min4_le_min3 _ _ _ _

theorem D_succ_succ_le_add (K : Consts) (a b : CWord) (i j : Nat) :
    D K a b (i+1) (j+1) ≤ indel K b j + D K a b (i+1) j :=
  Nat.le_trans (D_succ_succ_le_min3 K a b i j) (Nat.le_trans (Nat.min_le_left _ _) (Nat.min_le_left _ _))

theorem D_succ_succ_le_del (K : Consts) (a b : CWord) (i j : Nat) :
    D K a b (i+1) (j+1) ≤ indel K a i + D K a b i (j+1) :=
  Nat.le_trans (D_succ_succ_le_min3 K a b i j) (Nat.le_trans (Nat.min_le_left _ _) (Nat.min_le_right _ _))

theorem D_succ_succ_le_sub (K : Consts) (a b : CWord) (i j : Nat) :
    D K a b (i+1) (j+1) ≤ sub a b i j + D K a b i j :=
  Nat.le_trans (D_succ_succ_le_min3 K a b i j) (Nat.min_le_right _ _)

theorem D_succ_succ_le_trans (K : Consts) (a b : CWord) (i j : Nat)
    (h1 : lastOcc a.ch i (b.c j) ≠ 0) (h2 : lastOcc b.ch j (a.c i) ≠ 0) :
    D K a b (i+1) (j+1) ≤ K.costTrans * ((i - lastOcc a.ch i (b.c j)) + (j - lastOcc b.ch j (a.c i)) + 1) +
      D K a b (lastOcc a.ch i (b.c j) - 1) (lastOcc b.ch j (a.c i) - 1) := by
  rw [D_succ_succ, if_neg (fun h => h.elim h1 h2)]
  exact Nat.le_trans (Nat.min_le_right _ _) (Nat.min_le_right _ _)

theorem of_min {P : Nat → Prop} {x y : Nat} (hx : P x) (hy : P y) : P (min x y) := by
  rcases Nat.le_total x y with h | h
  · rw [Nat.min_eq_left h]; exact hx
  · rw [Nat.min_eq_right h]; exact hy

/-- `P` holds of `D` if it holds of the value of each branch the recurrence can take, given `P` of the cell that
    branch reads. The value is a variable in every case, so lower bounds and properties of the values are checked
    branch by branch, without unfolding the minimum. -/
theorem D_branch_ind (K : Consts) (a b : CWord) (P : Nat → Nat → Nat → Prop)
    (h00 : P 0 0 0) (hi0 : ∀ i v, P i 0 v → P (i+1) 0 (a.k i + v)) (h0j : ∀ j v, P 0 j v → P 0 (j+1) (b.k j + v))
    (hadd : ∀ i j v, P (i+1) j v → P (i+1) (j+1) (indel K b j + v))
    (hdel : ∀ i j v, P i (j+1) v → P (i+1) (j+1) (indel K a i + v))
    (hsub : ∀ i j v, P i j v → P (i+1) (j+1) (sub a b i j + v))
    (htr : ∀ i j v, lastOcc a.ch i (b.c j) ≠ 0 → lastOcc b.ch j (a.c i) ≠ 0 →
      P (lastOcc a.ch i (b.c j) - 1) (lastOcc b.ch j (a.c i) - 1) v →
      P (i+1) (j+1) (K.costTrans * ((i - lastOcc a.ch i (b.c j)) + (j - lastOcc b.ch j (a.c i)) + 1) + v)) :
    ∀ i j, P i j (D K a b i j) := by
  intro i j
  induction i, j using D.induct a b with
  | case1 => rw [D_zero_zero]; exact h00
  | case2 i ih => rw [D_succ_zero, Nat.add_comm]; exact hi0 i _ ih
  | case3 j ih => rw [D_zero_succ, Nat.add_comm]; exact h0j j _ ih
  | case4 i j l1 l2 hz h1 h2 h3 =>
    rw [D_succ_succ, if_pos hz]
    exact of_min (of_min (hadd i j _ h1) (hdel i j _ h2)) (hsub i j _ h3)
  | case5 i j l1 l2 hz _ h1 h2 h3 h4 =>
    rw [D_succ_succ, if_neg hz]
    exact of_min (of_min (hadd i j _ h1) (hdel i j _ h2))
      (of_min (hsub i j _ h3) (htr i j _ (fun e => hz (.inl e)) (fun e => hz (.inr e)) h4))

theorem sub_symm (a b : CWord) (i j : Nat) : sub a b i j = sub b a j i := by
  unfold sub
  by_cases h : a.c i = b.c j
  · simp [h]
  · have h' : ¬ b.c j = a.c i := fun e => h e.symm
    simp [h, h', Nat.max_comm]

theorem D_symm (K : Consts) (a b : CWord) : ∀ i j, D K a b i j = D K b a j i := by
  intro i j
  induction i, j using D.induct a b with
  | case1 => rw [D_zero_zero, D_zero_zero]
  | case2 i ih => rw [D_succ_zero, D_zero_succ, ih]
  | case3 j ih => rw [D_zero_succ, D_succ_zero, ih]
  | case4 i j l1 l2 hz h1 h2 h3 =>
    rw [D_succ_succ, D_succ_succ, if_pos hz, if_pos hz.symm, h1, h2, h3, sub_symm a b i j,
      Nat.min_comm (indel K b j + _)]
  | case5 i j l1 l2 hz _ h1 h2 h3 h4 =>
    rw [D_succ_succ, D_succ_succ, if_neg hz, if_neg (fun e => hz e.symm), h1, h2, h3, h4]
    unfold cellVal min4
    rw [sub_symm a b i j, Nat.min_comm (indel K b j + _), Nat.add_comm (i - _) (j - _)]

/-- what the theorems need of the three global constants -/
structure KOK (K : Consts) : Prop where
  trans : K.costTrans = 5
  double : K.costDouble = 5
  single : K.costSingle = 10

theorem KOK_of_CostsOK (K : Consts) (h : CostsOK K = true) : KOK K := by
  simp only [CostsOK, Bool.and_eq_true, decide_eq_true_eq, and_assoc] at h
  obtain ⟨-, -, -, -, -, -, -, -, hs, hd, ht, -⟩ := h
  exact ⟨ht, hd, hs⟩

/-- the source's `get_cost` only yields 0.5 or 1.0 -/
theorem getCost_ok (K : Consts) (h : CostsOK K = true) (c : CharClass) :
    0 < getCost K c ∧ getCost K c ≤ 10 ∧ getCost K c % 5 = 0 := by
  simp only [CostsOK, Bool.and_eq_true, decide_eq_true_eq, and_assoc] at h
  obtain ⟨pv, pn, pc, pd, lv, ln, lc, ld, -, -, -, mv, mn, mc, md⟩ := h
  cases c with
  | consonant => exact ⟨pc, lc, mc⟩
  | vowel => exact ⟨pv, lv, mv⟩
  | notAlpha => exact ⟨pn, ln, mn⟩
  | _ => exact ⟨pd, ld, md⟩

def CostLe (w : CWord) : Prop := ∀ x ∈ w.cost, x ≤ 10
def CostPos (w : CWord) : Prop := ∀ x ∈ w.cost, 0 < x
def CostMul5 (w : CWord) : Prop := ∀ x ∈ w.cost, x % 5 = 0
def Aligned (w : CWord) : Prop := w.cost.length = w.ch.length

theorem k_eq_getElem (w : CWord) (i : Nat) (h : i < w.cost.length) : w.k i = w.cost[i] := by
  simp [CWord.k, List.getD, h]

theorem k_ind {P : Nat → Prop} (w : CWord) (h0 : P 0) (h : ∀ x ∈ w.cost, P x) (i : Nat) : P (w.k i) := by
  by_cases hi : i < w.cost.length
  · rw [k_eq_getElem w i hi]; exact h _ (List.getElem_mem hi)
  · rw [CWord.k, List.getD_eq_getElem?_getD, List.getElem?_eq_none (Nat.not_lt.mp hi)]; exact h0

theorem k_le (w : CWord) (h : CostLe w) (i : Nat) : w.k i ≤ 10 := k_ind (P := (· ≤ 10)) w (Nat.zero_le _) h i

theorem k_mod5 (w : CWord) (h : CostMul5 w) (i : Nat) : w.k i % 5 = 0 := k_ind (P := (· % 5 = 0)) w rfl h i

theorem k_pos (w : CWord) (h : CostPos w) (ha : Aligned w) (i : Nat) (hi : i < w.len) : 0 < w.k i := by
  have hi' : i < w.cost.length := by rw [ha]; exact hi
  rw [k_eq_getElem w i hi']; exact h _ (List.getElem_mem hi')

theorem k_ge5 (w : CWord) (h : CostPos w) (h5 : CostMul5 w) (ha : Aligned w) (i : Nat) (hi : i < w.len) :
    5 ≤ w.k i := by
  have := k_pos w h ha i hi; have := k_mod5 w h5 i; omega

theorem indel_ind {P : Nat → Prop} (K : Consts) (w : CWord) (i : Nat) (hk : P (w.k i)) (hd : P K.costDouble)
    (hs : P K.costSingle) : P (indel K w i) :=
  of_min hk (by split; exact hd; exact hs)

theorem indel_mod5 (K : Consts) (hK : KOK K) (w : CWord) (h5 : CostMul5 w) (i : Nat) : indel K w i % 5 = 0 :=
  indel_ind (P := (· % 5 = 0)) K w i (k_mod5 w h5 i) (by rw [hK.double]) (by rw [hK.single])

theorem indel_ge5 (K : Consts) (hK : KOK K) (w : CWord) (h : CostPos w) (h5 : CostMul5 w) (ha : Aligned w)
    (i : Nat) (hi : i < w.len) : 5 ≤ indel K w i :=
  indel_ind (P := (5 ≤ ·)) K w i (k_ge5 w h h5 ha i hi) (Nat.le_of_eq hK.double.symm) (by rw [hK.single]; decide)

theorem indel_pos (K : Consts) (hK : KOK K) (w : CWord) (h : CostPos w) (ha : Aligned w)
    (i : Nat) (hi : i < w.len) : 0 < indel K w i :=
  indel_ind (P := (0 < ·)) K w i (k_pos w h ha i hi) (by rw [hK.double]; decide) (by rw [hK.single]; decide)

/-- substitution against the unit-cost indicator of the reference recurrences `lev`, `DLunit` -/
theorem sub_le_ne (a b : CWord) (ha : CostLe a) (hb : CostLe b) (i j : Nat) :
    sub a b i j ≤ 10 * (if a.ch.getD i 0 == b.ch.getD j 0 then 0 else 1) := by
  have := k_le a ha i; have := k_le b hb j
  unfold sub CWord.c; split <;> omega

theorem sub_le (a b : CWord) (ha : CostLe a) (hb : CostLe b) (i j : Nat) : sub a b i j ≤ 10 :=
  Nat.le_trans (sub_le_ne a b ha hb i j) (by split <;> omega)

theorem sub_ge_ne (a b : CWord) (i j : Nat) (h : 5 ≤ a.k i) :
    5 * (if a.ch.getD i 0 == b.ch.getD j 0 then 0 else 1) ≤ sub a b i j := by
  unfold sub CWord.c; split <;> omega

theorem sub_mod5 (a b : CWord) (h5a : CostMul5 a) (h5b : CostMul5 b) (i j : Nat) : sub a b i j % 5 = 0 := by
  have := k_mod5 a h5a i; have := k_mod5 b h5b j; unfold sub; split <;> omega

/-- needed so that the sentinel `size` in row and column 0 of the matrix never wins -/
theorem D_le (K : Consts) (a b : CWord) (ha : CostLe a) (hb : CostLe b) :
    ∀ i j, D K a b i j ≤ 10 * max i j := by
  intro i
  induction i with
  | zero =>
    intro j
    induction j with
    | zero => simp [D_zero_zero]
    | succ j ih => rw [D_zero_succ]; have := k_le b hb j; omega
  | succ i ih =>
    intro j
    cases j with
    | zero => rw [D_succ_zero]; have := k_le a ha i; have := ih 0; omega
    | succ j => have := D_succ_succ_le_sub K a b i j; have := sub_le a b ha hb i j; have := ih j; omega

theorem D_diag_le (K : Consts) (a b : CWord) (i j : Nat) :
    ∀ n, (∀ k, k < n → a.c (i + k) = b.c (j + k)) → D K a b (i + n) (j + n) ≤ D K a b i j := by
  intro n
  induction n with
  | zero => intro _; exact Nat.le_refl _
  | succ n ih =>
    intro h
    have h1 := ih fun k hk => h k (by omega)
    have h2 := D_succ_succ_le_sub K a b (i + n) (j + n)
    have : sub a b (i + n) (j + n) = 0 := by unfold sub; simp [h n (by omega)]
    rw [← Nat.add_assoc, ← Nat.add_assoc]; omega

theorem D_add_k (K : Consts) (a b : CWord) (i j : Nat) : D K a b i (j+1) ≤ b.k j + D K a b i j := by
  cases i with
  | zero => rw [D_zero_succ]; exact Nat.le_of_eq (Nat.add_comm _ _)
  | succ i => have := D_succ_succ_le_add K a b i j; unfold indel at this; split at this <;> omega

theorem D_del_k (K : Consts) (a b : CWord) (i j : Nat) : D K a b (i+1) j ≤ a.k i + D K a b i j := by
  rw [D_symm K a b (i+1) j, D_symm K a b i j]; exact D_add_k K b a j i

/-- the common prefix is free, then one insertion, then the common suffix is free -/
theorem D_ins_le (K : Consts) (a b : CWord) (x y : List Nat) (s : Nat) (ha : a.ch = x ++ y) (hb : b.ch = x ++ s :: y) :
    D K a b a.len b.len ≤ b.k x.length := by
  have h0 := D_diag_le K a b 0 0 x.length fun k hk => by
    simp only [Nat.zero_add, CWord.c, ha, hb, getD_append_left _ _ _ hk]
  have h1 := D_add_k K a b x.length x.length
  have h2 := D_diag_le K a b x.length (x.length + 1) y.length fun k _ => by
    simp only [CWord.c, ha, hb]
    rw [Nat.add_assoc, getD_append_right, getD_append_right, Nat.add_comm 1 k, List.getD_cons_succ]
  have la : a.len = x.length + y.length := by simp [CWord.len, ha]
  have lb : b.len = x.length + 1 + y.length := by simp [CWord.len, hb]; omega
  rw [Nat.zero_add, D_zero_zero] at h0
  rw [la, lb]; omega

theorem mod5_add {x y : Nat} (hx : x % 5 = 0) (hy : y % 5 = 0) : (x + y) % 5 = 0 := by rw [Nat.add_mod, hx, hy]

theorem D_mod5 (K : Consts) (hK : KOK K) (a b : CWord) (h5a : CostMul5 a) (h5b : CostMul5 b) :
    ∀ i j, D K a b i j % 5 = 0 :=
  D_branch_ind K a b (fun _ _ v => v % 5 = 0) rfl
    (fun i _ h => mod5_add (k_mod5 a h5a i) h) (fun j _ h => mod5_add (k_mod5 b h5b j) h)
    (fun _ j _ h => mod5_add (indel_mod5 K hK b h5b j) h) (fun i _ _ h => mod5_add (indel_mod5 K hK a h5a i) h)
    (fun i j _ h => mod5_add (sub_mod5 a b h5a h5b i j) h)
    (fun _ _ _ _ _ h => mod5_add (by rw [hK.trans]; exact Nat.mul_mod_right 5 _) h)

theorem D_eq_zero_iff (K : Consts) (hK : KOK K) (a b : CWord)
    (ha : Aligned a) (hb : Aligned b) (hpa : CostPos a) (hpb : CostPos b) :
    ∀ i j, i ≤ a.len → j ≤ b.len → (D K a b i j = 0 ↔ i = j ∧ ∀ k, k < i → a.c k = b.c k) := by
  intro i j hi hj
  constructor
  · -- no branch but the substitution of equal characters adds nothing
    revert i j
    refine D_branch_ind K a b (fun i j v => i ≤ a.len → j ≤ b.len → v = 0 → i = j ∧ ∀ k, k < i → a.c k = b.c k)
      ?_ ?_ ?_ ?_ ?_ ?_ ?_
    · intro _ _ _; exact ⟨rfl, fun k hk => absurd hk (Nat.not_lt_zero k)⟩
    · intro i v _ hi _ h; have := k_pos a hpa ha i hi; omega
    · intro j v _ _ hj h; have := k_pos b hpb hb j hj; omega
    · intro i j v _ _ hj h; have := indel_pos K hK b hpb hb j hj; omega
    · intro i j v _ hi _ h; have := indel_pos K hK a hpa ha i hi; omega
    · intro i j v ih hi hj h
      obtain ⟨rfl, hk⟩ := ih (Nat.le_of_lt hi) (Nat.le_of_lt hj) (by omega)
      have hka := k_pos a hpa ha i hi
      have e : a.c i = b.c i := by
        apply Decidable.byContradiction; intro ne
        rw [sub, if_neg (by simpa using ne)] at h; omega
      exact ⟨rfl, fun k hk' => by
        rcases Nat.lt_succ_iff_lt_or_eq.mp hk' with lt | rfl
        · exact hk k lt
        · exact e⟩
    · intro i j v _ _ _ _ _ h; rw [hK.trans] at h; omega
  · rintro ⟨rfl, hk⟩
    have := D_diag_le K a b 0 0 i fun k hk' => by rw [Nat.zero_add]; exact hk k hk'
    rw [Nat.zero_add, D_zero_zero] at this; exact Nat.le_zero.mp this

theorem prefix_eq_iff (a b : CWord) :
    (a.len = b.len ∧ ∀ k, k < a.len → a.c k = b.c k) ↔ a.ch = b.ch := by
  constructor
  · intro ⟨h, hk⟩
    apply List.ext_getElem h
    intro n h1 h2
    have := hk n h1
    simpa [CWord.c, List.getD, h1, h2] using this
  · intro h
    simp [CWord.len, CWord.c, h]

def PreLe (w w' : CWord) (n : Nat) : Prop := ∀ k, k < n → w.c k = w'.c k ∧ w.k k ≤ w'.k k

theorem PreLe.mono {w w' : CWord} {n n' : Nat} (h : PreLe w w' n') (hn : n ≤ n') : PreLe w w' n :=
  fun k hk => h k (Nat.lt_of_lt_of_le hk hn)

theorem PreLe.pred {w w' : CWord} {n : Nat} (h : PreLe w w' (n+1)) : PreLe w w' n := h.mono (Nat.le_succ n)

theorem PreLe.lastOcc_eq {w w' : CWord} {n : Nat} (h : PreLe w w' n) (c : Nat) :
    lastOcc w'.ch n c = lastOcc w.ch n c :=
  (lastOcc_ext _ _ _ _ fun k hk => (h k hk).1).symm

theorem PreLe.indel_le {w w' : CWord} {i : Nat} (h : PreLe w w' (i+1)) {K K' : Consts}
    (hD : K.costDouble ≤ K'.costDouble) (hS : K.costSingle ≤ K'.costSingle) : indel K w i ≤ indel K' w' i := by
  have e : dbl w i = dbl w' i := by unfold dbl; rw [(h i (Nat.lt_succ_self i)).1, (h (i-1) (by omega)).1]
  unfold indel; rw [e]
  exact Nat.le_min.mpr ⟨Nat.le_trans (Nat.min_le_left _ _) (h i (Nat.lt_succ_self i)).2,
    Nat.le_trans (Nat.min_le_right _ _) (by split; exact hD; exact hS)⟩

theorem PreLe.sub_le {a a' b b' : CWord} {i j : Nat} (ha : PreLe a a' (i+1)) (hb : PreLe b b' (j+1)) :
    sub a b i j ≤ sub a' b' i j := by
  have ea := ha i (Nat.lt_succ_self i); have eb := hb j (Nat.lt_succ_self j)
  unfold sub; rw [ea.1, eb.1]; split
  · exact Nat.le_refl _
  · exact Nat.max_le.mpr ⟨Nat.le_trans ea.2 (Nat.le_max_left _ _), Nat.le_trans eb.2 (Nat.le_max_right _ _)⟩

/-- Monotonicity in the costs and dependence on the prefixes only, in one statement: every branch the right side
    can take is above the same branch of the left side. -/
theorem D_mono_pre (K K' : Consts) (a a' b b' : CWord)
    (hT : K.costTrans ≤ K'.costTrans) (hD : K.costDouble ≤ K'.costDouble) (hS : K.costSingle ≤ K'.costSingle) :
    ∀ i j, PreLe a a' i → PreLe b b' j → D K a b i j ≤ D K' a' b' i j := by
  refine D_branch_ind K' a' b' (fun i j v => PreLe a a' i → PreLe b b' j → D K a b i j ≤ v) ?_ ?_ ?_ ?_ ?_ ?_ ?_
  · intro _ _; rw [D_zero_zero]; exact Nat.le_refl _
  · intro i v ih ha hb
    rw [D_succ_zero, Nat.add_comm]; exact Nat.add_le_add (ha i (Nat.lt_succ_self i)).2 (ih ha.pred hb)
  · intro j v ih ha hb
    rw [D_zero_succ, Nat.add_comm]; exact Nat.add_le_add (hb j (Nat.lt_succ_self j)).2 (ih ha hb.pred)
  · intro i j v ih ha hb
    exact Nat.le_trans (D_succ_succ_le_add K a b i j) (Nat.add_le_add (hb.indel_le hD hS) (ih ha hb.pred))
  · intro i j v ih ha hb
    exact Nat.le_trans (D_succ_succ_le_del K a b i j) (Nat.add_le_add (ha.indel_le hD hS) (ih ha.pred hb))
  · intro i j v ih ha hb
    exact Nat.le_trans (D_succ_succ_le_sub K a b i j) (Nat.add_le_add (ha.sub_le hb) (ih ha.pred hb.pred))
  · intro i j v n1 n2 ih ha hb
    rw [← (hb j (Nat.lt_succ_self j)).1, ha.pred.lastOcc_eq] at n1 ih ⊢
    rw [← (ha i (Nat.lt_succ_self i)).1, hb.pred.lastOcc_eq] at n2 ih ⊢
    have := lastOcc_le a.ch i (b.c j); have := lastOcc_le b.ch j (a.c i)
    exact Nat.le_trans (D_succ_succ_le_trans K a b i j n1 n2)
      (Nat.add_le_add (Nat.mul_le_mul_right _ hT) (ih (ha.mono (by omega)) (hb.mono (by omega))))

theorem D_mono (K K' : Consts) (a a' b b' : CWord) (hca : a.ch = a'.ch) (hcb : b.ch = b'.ch)
    (hka : ∀ i, a.k i ≤ a'.k i) (hkb : ∀ j, b.k j ≤ b'.k j)
    (hT : K.costTrans ≤ K'.costTrans) (hD : K.costDouble ≤ K'.costDouble) (hS : K.costSingle ≤ K'.costSingle)
    (i j : Nat) : D K a b i j ≤ D K' a' b' i j :=
  D_mono_pre K K' a a' b b' hT hD hS i j (fun k _ => ⟨by simp [CWord.c, hca], hka k⟩)
    (fun k _ => ⟨by simp [CWord.c, hcb], hkb k⟩)

theorem D_ext (K : Consts) (a a' b b' : CWord) (i j : Nat)
    (ha : ∀ k, k < i → a.c k = a'.c k ∧ a.k k = a'.k k) (hb : ∀ k, k < j → b.c k = b'.c k ∧ b.k k = b'.k k) :
    D K a b i j = D K a' b' i j :=
  Nat.le_antisymm
    (D_mono_pre K K a a' b b' (Nat.le_refl _) (Nat.le_refl _) (Nat.le_refl _) i j
      (fun k hk => ⟨(ha k hk).1, Nat.le_of_eq (ha k hk).2⟩) (fun k hk => ⟨(hb k hk).1, Nat.le_of_eq (hb k hk).2⟩))
    (D_mono_pre K K a' a b' b (Nat.le_refl _) (Nat.le_refl _) (Nat.le_refl _) i j
      (fun k hk => ⟨(ha k hk).1.symm, Nat.le_of_eq (ha k hk).2.symm⟩)
      (fun k hk => ⟨(hb k hk).1.symm, Nat.le_of_eq (hb k hk).2.symm⟩))

def pre (w : CWord) (n : Nat) : CWord := { ch := w.ch.take n, cost := w.cost.take n }

theorem pre_c (w : CWord) (n k : Nat) (h : k < n) : (pre w n).c k = w.c k := by
  simp [pre, CWord.c, List.getD, h]

theorem pre_k (w : CWord) (n k : Nat) (h : k < n) : (pre w n).k k = w.k k := by
  simp [pre, CWord.k, List.getD, h]

theorem pre_len (w : CWord) (n : Nat) (h : n ≤ w.len) : (pre w n).len = n := by
  simp [pre, CWord.len] at *; omega

theorem D_pre (K : Consts) (a b : CWord) (i j : Nat) : D K a b i j = D K (pre a i) (pre b j) i j :=
  D_ext K a (pre a i) b (pre b j) i j (fun k hk => ⟨(pre_c a i k hk).symm, (pre_k a i k hk).symm⟩)
    (fun k hk => ⟨(pre_c b j k hk).symm, (pre_k b j k hk).symm⟩)

end DL
end Lucid
