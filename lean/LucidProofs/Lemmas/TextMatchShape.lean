/-
  LucidProofs.Lemmas.TextMatchShape — shape of what `text_match` (`matching/text.rs`, model `Lucid.textMatch`)
  hands to scoring and highlighting: under the tokenizer guarantees `TextOK` of both texts and the
  `word_match` guarantee `WordMatchOK`, every record match sits at the index of the word it describes,
  carries that word's slice, and its matched part is a non-empty prefix of the word (`RMatchOK`); the
  returned record matches are sorted by strictly increasing word offset (at most one per word).
  The query matches are index-consistent too (strictly increasing offsets below the number of query words).
  Span bound (`textMatch_span_le`): a record match highlights at most one character
  more than the query text spans from the start of its first word to the end of its last.
  The scan itself is walked in `Lemmas/TextMatchScan.lean`; here only what the three closures emit is examined.
-/
import LucidProofs.Lemmas.Highlight
import LucidProofs.Lemmas.TextMatchScan

namespace Lucid

/-- a record match describes a non-empty prefix of the record word it points to -/
structure RMatchOK (rt : Text) (m : WMatch) : Prop where
  off_lt : m.offset < rt.words.length
  word   : ∃ w, rt.words[m.offset]? = some w ∧ m.lo = w.lo ∧ m.hi = w.hi
  sub0   : m.subLo = 0
  pos    : 1 ≤ m.subHi
  le     : m.subHi ≤ m.hi - m.lo

theorem RMatchOK.fits {t : Text} {m : WMatch} (ht : TextOK t) (hm : RMatchOK t m) : MatchFits t.words m := by
  intro w hw
  obtain ⟨w', hw', hlo, hhi⟩ := hm.word
  cases hw.symm.trans hw'
  have := (ht.bounds w (List.mem_of_getElem? hw)).1
  have := hm.le
  exact ⟨hm.sub0 ▸ Nat.zero_le _, by omega⟩

theorem hlSafe_of_rmatches {t : Text} {rm : List WMatch} (ht : TextOK t) (hm : ∀ m ∈ rm, RMatchOK t m) :
    hlSafe t.source rm t.words 0 0 = true :=
  hlSafe_of_textOK ht fun m h => (hm m h).fits ht

theorem RMatchOK.of_pair {rt : Text} (hrt : TextOK rt) {r q : WordShape} (hr : r ∈ rt.words)
    {p : WMatch × WMatch} (hp : PairOK r q p) : RMatchOK rt p.1 := by
  have hw := hrt.offsetsOK.of_mem hr
  refine ⟨?_, ⟨r, ?_, hp.r_lo, hp.r_hi⟩, hp.r_sub0, hp.r_pos, ?_⟩
  · rw [hp.r_off]; exact (List.getElem?_eq_some_iff.mp hw).1
  · rw [hp.r_off]; exact hw
  · rw [hp.r_lo, hp.r_hi]; exact hp.r_le

/-- the second half of a split match is a non-empty prefix of the second word (`a ≤ c ≤ d`: start of the first word,
    bounds of the second; `S`: matched length of the joined word) -/
theorem split_arith {a c d S : Nat} (h : a ≤ c) (hg : c < a + S) (hS : S ≤ d - a) :
    1 ≤ S - (c - a) ∧ S - (c - a) ≤ d - c := by omega

theorem Fired.rmatchOK {K : Consts} {rt qt : Text} (hrt : TextOK rt) (hqt : TextOK qt) (hwm : WordMatchOK K rt qt)
    {q : WordShape} (hq : q ∈ qt.words) {rms qms : List WMatch} (h : Fired K rt qt q rms qms) :
    ∀ m ∈ rms, RMatchOK rt m := by
  cases h with
  | plain hr hm =>
    simpa using RMatchOK.of_pair hrt hr (hwm _ q _ (hrt.wordIn hr) (hqt.wordIn hq) (hrt.stems _ hr) (hqt.stems q hq) hm)
  | joinQ hr hn _ hm =>
    obtain ⟨hjw, hjs⟩ := hqt.join_wordIn hq hn
    simpa using RMatchOK.of_pair hrt hr (hwm _ _ _ (hrt.wordIn hr) hjw (hrt.stems _ hr) hjs hm)
  | @joinR r rnext p rs hr hn _ hm hsp =>
    obtain ⟨hmem, hoff, hle⟩ := hrt.next hr hn
    obtain ⟨hjw, hjs⟩ := hrt.join_wordIn hr hn
    have hp := hwm (r.join rnext) q p hjw (hqt.wordIn hq) hjs (hqt.stems q hq) hm
    obtain ⟨hg, rfl⟩ := split_eq_some.mp hsp
    obtain ⟨k2, k3⟩ := split_arith (Nat.le_trans (Nat.le_of_lt (hrt.bounds r hr).1) hle) hg hp.r_le
    have hw := hrt.offsetsOK.of_mem hr
    have hw' := hrt.offsetsOK.of_mem hmem
    simp only [List.mem_cons, List.not_mem_nil, or_false, forall_eq_or_imp, forall_eq]
    exact ⟨⟨(List.getElem?_eq_some_iff.mp hw).1, ⟨r, hw, rfl, rfl⟩, rfl, (hrt.wordIn hr).len_pos,
        Nat.le_refl _⟩,
      ⟨(List.getElem?_eq_some_iff.mp hw').1, ⟨rnext, hw', rfl, rfl⟩, rfl, k2, k3⟩⟩

/-- **shape of the record matches**: sorted by strictly increasing word offset (so at most one per word),
    each a non-empty prefix of the word it points to -/
theorem textMatch_rmatches_ok {K : Consts} {rt qt : Text} (hrt : TextOK rt) (hqt : TextOK qt)
    (hwm : WordMatchOK K rt qt) :
    (textMatch K rt qt).1.Pairwise (fun a b => a.offset < b.offset) ∧
    ∀ m ∈ (textMatch K rt qt).1, RMatchOK rt m := by
  have := (textMatch_of_fired (Q := fun _ => True) hrt.offsetsOK hqt.offsetsOK fun q hq _ _ hF =>
    ⟨hF.rmatchOK hrt hqt hwm hq, fun _ _ => trivial⟩).1
  exact ⟨this.1, fun m hm => (this.2 m hm).2⟩

/-- **shape of the query matches**: strictly increasing offsets below the number of query words -/
theorem textMatch_qmatches_ok {K : Consts} {rt qt : Text} (hrt : TextOK rt) (hqt : TextOK qt)
    (hwm : WordMatchOK K rt qt) :
    (textMatch K rt qt).2.Pairwise (fun a b => a.offset < b.offset) ∧
    ∀ m ∈ (textMatch K rt qt).2, m.offset < qt.words.length := by
  have := (textMatch_of_fired (K := K) (P := fun _ => True) (Q := fun _ => True) hrt.offsetsOK hqt.offsetsOK
    fun _ _ _ _ _ => ⟨fun _ _ => trivial, fun _ _ => trivial⟩).2
  exact ⟨this.1, fun m hm => (this.2 m hm).1⟩

theorem textMatch_no_words (K : Consts) (rt qt : Text) (h : qt.words = []) : textMatch K rt qt = ([], []) := by
  simp [textMatch, h]

/-! ## length of the highlighted spans (C05, second half) -/

/-- the stretch of query text from the first character of its first word to the end of its last word
    (normalised characters); 0 for a query without words -/
def stretch (q : Text) : Nat :=
  match q.words.head?, q.words.getLast? with
  | some f, some l => l.hi - f.lo
  | _, _ => 0

theorem TextOK.words_mono {t : Text} (ht : TextOK t) :
    ∀ (j i : Nat) (hij : i ≤ j) (hj : j < t.words.length),
      (t.words[i]'(by omega)).lo ≤ (t.words[j]).lo ∧ (t.words[i]'(by omega)).hi ≤ (t.words[j]).hi := by
  intro j
  induction j with
  | zero => intro i hij hj; have : i = 0 := by omega
            subst this; exact ⟨Nat.le_refl _, Nat.le_refl _⟩
  | succ j ih =>
    intro i hij hj
    by_cases e : i = j + 1
    · subst e; exact ⟨Nat.le_refl _, Nat.le_refl _⟩
    · have h1 := ih i (by omega) (by omega)
      have h2 := ht.ordered j hj
      have b1 := ht.bounds (t.words[j]'(by omega)) (List.getElem_mem _)
      have b2 := ht.bounds (t.words[j+1]) (List.getElem_mem _)
      omega

theorem stretch_eq {t : Text} (h : 0 < t.words.length) :
    stretch t = (t.words[t.words.length - 1]'(by omega)).hi - (t.words[0]).lo := by
  unfold stretch
  rw [List.head?_eq_getElem?, List.getLast?_eq_getElem?, List.getElem?_eq_getElem h,
    List.getElem?_eq_getElem (by omega)]

theorem TextOK.le_stretch {t : Text} (ht : TextOK t) (i j : Nat) (hij : i ≤ j) (hj : j < t.words.length) :
    (t.words[j]).hi - (t.words[i]'(by omega)).lo ≤ stretch t := by
  rw [stretch_eq (by omega)]
  exact Nat.le_trans (Nat.sub_le_sub_right (ht.words_mono (t.words.length - 1) j (by omega) (by omega)).2 _)
    (Nat.sub_le_sub_left (ht.words_mono i 0 (by omega) (by omega)).1 _)

theorem TextOK.len_le_stretch {t : Text} (ht : TextOK t) {w : WordShape} (hw : w ∈ t.words) :
    w.len ≤ stretch t := by
  obtain ⟨i, hi, rfl⟩ := List.mem_iff_getElem.mp hw
  exact ht.le_stretch i i (Nat.le_refl _) hi

theorem TextOK.join_len_le_stretch {t : Text} (ht : TextOK t) {w w' : WordShape} (hw : w ∈ t.words)
    (hn : t.words[w.offset + 1]? = some w') : (w.join w').len ≤ stretch t := by
  obtain ⟨i, hi, rfl⟩ := List.mem_iff_getElem.mp hw
  rw [ht.offsets i hi] at hn
  obtain ⟨h1, h2⟩ := List.getElem?_eq_some_iff.mp hn
  subst h2
  exact ht.le_stretch i (i + 1) (by omega) h1

theorem PairOK.subHi_le {r q : WordShape} {p : WMatch × WMatch} (hp : PairOK r q p) {n : Nat} (hn : q.len ≤ n) :
    p.1.subHi ≤ n + 1 :=
  Nat.le_trans hp.near.1 (Nat.add_le_add_right (Nat.le_trans hp.q_le hn) 1)

theorem Fired.span_le {K : Consts} {rt qt : Text} (hrt : TextOK rt) (hqt : TextOK qt) (hwm : WordMatchOK K rt qt)
    {q : WordShape} (hq : q ∈ qt.words) {rms qms : List WMatch} (h : Fired K rt qt q rms qms) :
    ∀ m ∈ rms, m.subHi - m.subLo ≤ stretch qt + 1 := by
  have hql := hqt.len_le_stretch hq
  cases h with
  | plain hr hm =>
    have hp := hwm _ q _ (hrt.wordIn hr) (hqt.wordIn hq) (hrt.stems _ hr) (hqt.stems q hq) hm
    simpa only [List.mem_singleton, forall_eq] using Nat.le_trans (Nat.sub_le _ _) (hp.subHi_le hql)
  | joinQ hr hn _ hm =>
    obtain ⟨hjw, hjs⟩ := hqt.join_wordIn hq hn
    have hp := hwm _ _ _ (hrt.wordIn hr) hjw (hrt.stems _ hr) hjs hm
    simpa only [List.mem_singleton, forall_eq] using
      Nat.le_trans (Nat.sub_le _ _) (hp.subHi_le (hqt.join_len_le_stretch hq hn))
  | @joinR r rnext p rs hr hn _ hm hsp =>
    obtain ⟨hjw, hjs⟩ := hrt.join_wordIn hr hn
    have hp := (hwm (r.join rnext) q p hjw (hqt.wordIn hq) hjs (hqt.stems q hq) hm).subHi_le hql
    obtain ⟨hg, rfl⟩ := split_eq_some.mp hsp
    have hle := (hrt.next hr hn).2.2
    simp only [List.mem_cons, List.not_mem_nil, or_false, forall_eq_or_imp, forall_eq, WordShape.len]
    omega

/-- every record match returned by `text_match` highlights at most `stretch qt + 1` characters -/
theorem textMatch_span_le {K : Consts} {rt qt : Text} (hrt : TextOK rt) (hqt : TextOK qt) (hwm : WordMatchOK K rt qt) :
    ∀ m ∈ (textMatch K rt qt).1, m.subHi - m.subLo ≤ stretch qt + 1 := fun m hm =>
  ((textMatch_of_fired (Q := fun _ => True) hrt.offsetsOK hqt.offsetsOK fun _ hq _ _ hF =>
    ⟨hF.span_le hrt hqt hwm hq, fun _ _ => trivial⟩).1.2 m hm).2

end Lucid
