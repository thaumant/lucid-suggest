/-
  LucidProofs.Lemmas.Highlight — `search/highlight.rs` (model: `Lucid.hlWalk`, `Lucid.highlight`, `Lucid.hlSafe`)
  as *decoration*: the walk over the title words equals the insertion of the two markers around a list of
  spans of `source` that is sorted and disjoint; nothing else of `source` is dropped, duplicated, reordered
  or altered; the span list does not depend on the markers; the final NUL filter commutes with decoration.
  Pure list reasoning about the walk; nothing of `text_match` is used. The section on the trap sites (`hlSafe`) takes
  the tokenizer guarantee `TextOK` of the title from `Lemmas/MatchFacts.lean`.
-/
import LucidModel.Search
import LucidProofs.Lemmas.MatchFacts
import LucidProofs.Lemmas.ListFacts

namespace Lucid

/-! ## decoration -/

/-- removal of the NUL padding (`highlighted.retain(|ch| ch != '\0')`) -/
def stripNul (l : List Nat) : List Nat := l.filter (· != 0)

/-- the two spellings of "NULs removed": `highlight` filters with `!=`, `TokInv.source` (C15.lean) with `≠` -/
theorem filter_bne_eq_filter_ne (l : List Nat) : l.filter (· != 0) = l.filter (fun c => decide (c ≠ 0)) :=
  List.filter_congr fun x _ => by by_cases h : x = 0 <;> simp [h]

/-- `source` from position `off` on, with `dl` inserted before position `s` and `dr` inserted after position
    `s + n` for every span `(s, n)` (start, length) of the list -/
def decorateFrom (source dl dr : List Nat) : List (Nat × Nat) → Nat → List Nat
  | [], off => source.drop off
  | (s, n) :: rest, off =>
    slice source off s ++ dl ++ slice source s (s + n) ++ dr ++ decorateFrom source dl dr rest (s + n)

/-- `source` with the markers `dl`, `dr` put around every span `(start, length)` -/
def decorate (source : List Nat) (spans : List (Nat × Nat)) (dl dr : List Nat) : List Nat :=
  decorateFrom source dl dr spans 0

/-- the spans are sorted by start, pairwise disjoint and start at or after `off` -/
def SpansFrom : Nat → List (Nat × Nat) → Prop
  | _, [] => True
  | off, (s, n) :: rest => off ≤ s ∧ SpansFrom (s + n) rest

def SpansIn (len : Nat) (spans : List (Nat × Nat)) : Prop := ∀ p ∈ spans, p.1 + p.2 ≤ len

theorem SpansFrom.mono {off off' : Nat} {spans : List (Nat × Nat)} (h : SpansFrom off spans) (hle : off' ≤ off) :
    SpansFrom off' spans := by
  cases spans with
  | nil => trivial
  | cons p rest => exact ⟨Nat.le_trans hle h.1, h.2⟩

/-- sorted + disjoint in the usual pairwise form -/
theorem SpansFrom.pairwise {off : Nat} {spans : List (Nat × Nat)} (h : SpansFrom off spans) :
    spans.Pairwise (fun a b => a.1 + a.2 ≤ b.1) ∧ ∀ p ∈ spans, off ≤ p.1 := by
  induction spans generalizing off with
  | nil => simp
  | cons p rest ih =>
    obtain ⟨h1, h2⟩ := h
    obtain ⟨ihp, ihl⟩ := ih h2
    refine ⟨List.pairwise_cons.mpr ⟨fun b hb => ihl b hb, ihp⟩, ?_⟩
    intro q hq
    rcases List.mem_cons.mp hq with rfl | hq
    · exact h1
    · exact Nat.le_trans (Nat.le_trans h1 (Nat.le_add_right _ _)) (ihl q hq)

theorem SpansFrom.of_pairwise {off : Nat} {spans : List (Nat × Nat)}
    (hp : spans.Pairwise (fun a b => a.1 + a.2 ≤ b.1)) (hl : ∀ p ∈ spans, off ≤ p.1) : SpansFrom off spans := by
  induction spans generalizing off with
  | nil => trivial
  | cons p rest ih =>
    rw [List.pairwise_cons] at hp
    exact ⟨hl p (by simp), ih hp.2 (fun q hq => hp.1 q hq)⟩

theorem decorateFrom_prefix (source dl dr : List Nat) {spans : List (Nat × Nat)} {off off' : Nat}
    (hle : off ≤ off') (h : SpansFrom off' spans) :
    slice source off off' ++ decorateFrom source dl dr spans off' = decorateFrom source dl dr spans off := by
  cases spans with
  | nil => simp only [decorateFrom]; exact slice_append_drop source hle
  | cons p rest =>
    obtain ⟨s, n⟩ := p
    simp only [decorateFrom]
    rw [← slice_append_slice source hle h.1]
    simp only [List.append_assoc]

/-- with empty markers the decoration is the text itself: nothing dropped, duplicated, reordered, altered -/
theorem decorateFrom_nil (source : List Nat) {spans : List (Nat × Nat)} {off : Nat} (h : SpansFrom off spans) :
    decorateFrom source [] [] spans off = source.drop off := by
  induction spans generalizing off with
  | nil => rfl
  | cons p rest ih =>
    obtain ⟨s, n⟩ := p
    simp only [decorateFrom, List.append_nil]
    rw [ih h.2, List.append_assoc, slice_append_drop source (Nat.le_add_right s n), slice_append_drop source h.1]

theorem decorate_nil (source : List Nat) {spans : List (Nat × Nat)} (h : SpansFrom 0 spans) :
    decorate source spans [] [] = source := by
  simpa [decorate] using decorateFrom_nil source h

/-- removal of the markers *by position*: keep the gap, skip `a` characters, keep `n` characters, skip `b` … -/
def unmarkFrom (a b : Nat) : List (Nat × Nat) → Nat → List Nat → List Nat
  | [], _, l => l
  | (s, n) :: rest, off, l =>
    l.take (s - off) ++ (l.drop (s - off + a)).take n ++ unmarkFrom a b rest (s + n) (l.drop (s - off + a + n + b))

def unmark (a b : Nat) (spans : List (Nat × Nat)) (l : List Nat) : List Nat := unmarkFrom a b spans 0 l

theorem unmarkFrom_decorateFrom (source dl dr : List Nat) {spans : List (Nat × Nat)} {off : Nat}
    (h : SpansFrom off spans) (hin : SpansIn source.length spans) :
    unmarkFrom dl.length dr.length spans off (decorateFrom source dl dr spans off) = source.drop off := by
  induction spans generalizing off with
  | nil => rfl
  | cons p rest ih =>
    obtain ⟨s, n⟩ := p
    have hsn : s + n ≤ source.length := hin (s, n) (by simp)
    have hl1 : (slice source off s).length = s - off := slice_length source _ _ (by omega)
    have hl2 : (slice source s (s + n)).length = n := by
      rw [slice_length source _ _ hsn]; omega
    -- the decoration is five pieces; the positions of `unmarkFrom` cut it exactly there
    simp only [decorateFrom, unmarkFrom, List.append_assoc, ← List.drop_drop, List.take_left' hl1,
      List.drop_left' hl1, List.drop_left, List.take_left' hl2, List.drop_left' hl2]
    rw [ih h.2 fun q hq => hin q (by simp [hq]), slice_append_drop source (Nat.le_add_right s n),
      slice_append_drop source h.1]

theorem unmark_decorate (source dl dr : List Nat) {spans : List (Nat × Nat)}
    (h : SpansFrom 0 spans) (hin : SpansIn source.length spans) :
    unmark dl.length dr.length spans (decorate source spans dl dr) = source := by
  simpa [unmark, decorate] using unmarkFrom_decorateFrom source dl dr h hin

/-! ## the NUL filter commutes with decoration -/

theorem stripNul_append (a b : List Nat) : stripNul (a ++ b) = stripNul a ++ stripNul b := by
  simp [stripNul]

theorem zero_not_mem_stripNul (l : List Nat) : 0 ∉ stripNul l := by
  simp [stripNul]

theorem stripNul_eq_self {l : List Nat} (h : 0 ∉ l) : stripNul l = l := by
  unfold stripNul
  rw [List.filter_eq_self]
  intro a ha
  have : a ≠ 0 := fun e => h (e ▸ ha)
  simpa using this

/-- position of source position `p` after the NUL padding has been removed -/
def nulPos (source : List Nat) (p : Nat) : Nat := (stripNul (source.take p)).length

theorem nulPos_add (source : List Nat) {a b : Nat} (hab : a ≤ b) :
    nulPos source b = nulPos source a + (stripNul (slice source a b)).length := by
  unfold nulPos
  rw [← take_append_slice source hab, stripNul_append, List.length_append]

theorem nulPos_mono (source : List Nat) {a b : Nat} (hab : a ≤ b) : nulPos source a ≤ nulPos source b :=
  nulPos_add source hab ▸ Nat.le_add_right _ _

theorem nulPos_zero (source : List Nat) : nulPos source 0 = 0 := by simp [nulPos, stripNul]

theorem stripNul_slice (source : List Nat) {a b : Nat} (hab : a ≤ b) :
    stripNul (slice source a b) = slice (stripNul source) (nulPos source a) (nulPos source b) := by
  have hsrc : source = source.take a ++ (slice source a b ++ source.drop b) := by
    rw [slice_append_drop source hab, List.take_append_drop]
  have hs : stripNul source = stripNul (source.take a) ++ (stripNul (slice source a b) ++ stripNul (source.drop b)) := by
    rw [← stripNul_append, ← stripNul_append, ← hsrc]
  rw [hs, nulPos_add source hab]
  unfold slice nulPos
  rw [List.drop_left, Nat.add_sub_cancel_left, List.take_left]

theorem stripNul_drop (source : List Nat) (a : Nat) :
    stripNul (source.drop a) = (stripNul source).drop (nulPos source a) := by
  have hs : stripNul source = stripNul (source.take a) ++ stripNul (source.drop a) := by
    rw [← stripNul_append, List.take_append_drop]
  rw [hs]; unfold nulPos; rw [List.drop_left]

theorem nulSpan_pos (source : List Nat) {s n : Nat} (hn : 1 ≤ n) (hs : s < source.length)
    (h0 : source[s]? ≠ some 0) : 1 ≤ nulPos source (s + n) - nulPos source s := by
  rw [nulPos_add source (Nat.le_add_right s n), Nat.add_sub_cancel_left]
  obtain ⟨k, rfl⟩ : ∃ k, n = k + 1 := ⟨n - 1, by omega⟩
  have hne : source[s] ≠ 0 := by
    intro e; apply h0; rw [List.getElem?_eq_getElem hs, e]
  have : slice source s (s + (k + 1)) = source[s] :: (source.drop (s + 1)).take k := by
    unfold slice
    rw [List.drop_eq_getElem_cons hs, Nat.add_sub_cancel_left, List.take_succ_cons]
  rw [this]
  simp [stripNul, hne]

/-- the span list seen in the NUL-free text -/
def nulSpans (source : List Nat) (spans : List (Nat × Nat)) : List (Nat × Nat) :=
  spans.map (fun p => (nulPos source p.1, nulPos source (p.1 + p.2) - nulPos source p.1))

theorem nulSpans_from (source : List Nat) {spans : List (Nat × Nat)} {off : Nat} (h : SpansFrom off spans) :
    SpansFrom (nulPos source off) (nulSpans source spans) := by
  induction spans generalizing off with
  | nil => trivial
  | cons p rest ih =>
    obtain ⟨s, n⟩ := p
    refine ⟨nulPos_mono source h.1, ?_⟩
    have := ih h.2
    have hm := nulPos_mono source (Nat.le_add_right s n)
    simp only [] at *
    rw [Nat.add_sub_cancel' hm]
    exact this

theorem stripNul_decorateFrom (source dl dr : List Nat) {spans : List (Nat × Nat)} {off : Nat}
    (h : SpansFrom off spans) :
    stripNul (decorateFrom source dl dr spans off) =
      decorateFrom (stripNul source) (stripNul dl) (stripNul dr) (nulSpans source spans) (nulPos source off) := by
  induction spans generalizing off with
  | nil => simp only [decorateFrom, nulSpans, List.map_nil]; exact stripNul_drop source off
  | cons p rest ih =>
    obtain ⟨s, n⟩ := p
    have hm := nulPos_mono source (Nat.le_add_right s n)
    simp only [decorateFrom, nulSpans, List.map_cons, stripNul_append]
    rw [Nat.add_sub_cancel' hm, stripNul_slice source h.1, stripNul_slice source (Nat.le_add_right s n)]
    have := ih h.2
    simp only [nulSpans] at this
    rw [this]

theorem stripNul_decorate (source dl dr : List Nat) {spans : List (Nat × Nat)} (h : SpansFrom 0 spans) :
    stripNul (decorate source spans dl dr) =
      decorate (stripNul source) (nulSpans source spans) (stripNul dl) (stripNul dr) := by
  have := stripNul_decorateFrom source dl dr h
  rw [nulPos_zero] at this
  exact this

theorem nulSpans_in (source : List Nat) {spans : List (Nat × Nat)} (hin : SpansIn source.length spans) :
    SpansIn (stripNul source).length (nulSpans source spans) := by
  intro q hq
  simp only [nulSpans, List.mem_map] at hq
  obtain ⟨p, hp, rfl⟩ := hq
  have hm := nulPos_mono source (Nat.le_add_right p.1 p.2)
  simp only []
  rw [Nat.add_sub_cancel' hm]
  have : nulPos source (p.1 + p.2) ≤ nulPos source source.length := nulPos_mono source (hin p hp)
  simpa [nulPos] using this

/-! ## the walk of `highlight` is a decoration -/

/-- the spans `(start, length)` highlighted by the walk, in word order; independent of the markers -/
def hlSpans (rm : List WMatch) : List WordShape → Nat → List (Nat × Nat)
  | [], _ => []
  | w :: ws, wi =>
    match rm.find? (fun m => m.offset == wi) with
    | some m => (w.lo + m.subLo, m.subHi - m.subLo) :: hlSpans rm ws (wi + 1)
    | none => hlSpans rm ws (wi + 1)

/-- when no slice of the walk is out of range, its spans are sorted, disjoint and inside the text, and the walk
    is the decoration of `source` by them -/
theorem hlWalk_spec {source : List Nat} {rm : List WMatch} (dl dr : List Nat) {ws : List WordShape}
    {wi off : Nat} (h : hlSafe source rm ws wi off = true) :
    (SpansFrom off (hlSpans rm ws wi) ∧ SpansIn source.length (hlSpans rm ws wi)) ∧
    hlWalk source rm dl dr ws wi off = decorateFrom source dl dr (hlSpans rm ws wi) off := by
  induction ws generalizing wi off with
  | nil => exact ⟨⟨trivial, fun p hp => by simp [hlSpans] at hp⟩, rfl⟩
  | cons w ws ih =>
    cases hf : rm.find? (fun m => m.offset == wi) with
    | none =>
      simp only [hlSafe, hf, Bool.and_eq_true, decide_eq_true_eq] at h
      obtain ⟨⟨h1, h2⟩, h3⟩ := h
      obtain ⟨⟨i1, i2⟩, i3⟩ := ih h3
      simp only [hlWalk, hlSpans, hf, i3]
      exact ⟨⟨i1.mono h1, i2⟩, decorateFrom_prefix source dl dr h1 i1⟩
    | some m =>
      simp only [hlSafe, hf, Bool.and_eq_true, decide_eq_true_eq] at h
      obtain ⟨⟨⟨⟨h1, h2⟩, h3⟩, h4⟩, h5⟩ := h
      obtain ⟨⟨i1, i2⟩, i3⟩ := ih h5
      have e : w.lo + m.subLo + (m.subHi - m.subLo) = w.lo + m.subHi := by omega
      simp only [hlWalk, hlSpans, hf, decorateFrom, i3, e]
      refine ⟨⟨⟨h1, i1.mono (by omega)⟩, ?_⟩, ?_⟩
      · intro p hp
        rcases List.mem_cons.mp hp with rfl | hp
        · simp only []; omega
        · exact i2 p hp
      · rw [List.append_assoc _ (slice source (w.lo + m.subHi) w.hi), decorateFrom_prefix source dl dr h3 i1]

theorem hlSafe_spans {source : List Nat} {rm : List WMatch} {ws : List WordShape} {wi off : Nat}
    (h : hlSafe source rm ws wi off = true) :
    SpansFrom off (hlSpans rm ws wi) ∧ SpansIn source.length (hlSpans rm ws wi) :=
  (hlWalk_spec [] [] h).1

theorem hlWalk_eq_decorate {source : List Nat} {rm : List WMatch} (dl dr : List Nat) {ws : List WordShape}
    (h : hlSafe source rm ws 0 0 = true) :
    hlWalk source rm dl dr ws 0 0 = decorate source (hlSpans rm ws 0) dl dr :=
  (hlWalk_spec dl dr h).2

theorem hlWalk_nil_markers {source : List Nat} {rm : List WMatch} {ws : List WordShape}
    (h : hlSafe source rm ws 0 0 = true) : hlWalk source rm [] [] ws 0 0 = source := by
  rw [hlWalk_eq_decorate [] [] h, decorate_nil source (hlSafe_spans h).1]

theorem unmark_hlWalk {source : List Nat} {rm : List WMatch} (dl dr : List Nat) {ws : List WordShape}
    (h : hlSafe source rm ws 0 0 = true) :
    unmark dl.length dr.length (hlSpans rm ws 0) (hlWalk source rm dl dr ws 0 0) = source := by
  rw [hlWalk_eq_decorate dl dr h, unmark_decorate source dl dr (hlSafe_spans h).1 (hlSafe_spans h).2]

/-- `highlight` ends with the NUL filter, so the returned title never contains NUL (`zero_not_mem_stripNul`),
    whatever the hit and the markers (even markers containing NUL) -/
theorem highlight_eq_stripNul (h : Hit) (dl dr : List Nat) :
    highlight h dl dr = stripNul (hlWalk h.title.source h.rmatches dl dr h.title.words 0 0) := rfl

/-! ## the trap sites of `highlight` (`hlSafe`) under the tokenizer / matcher guarantees -/

/-- a record match fits the word it points to (weaker than `RMatchOK` of `Lemmas/TextMatchShape.lean`: `subLo` need not be 0) -/
def MatchFits (words : List WordShape) (m : WMatch) : Prop :=
  ∀ w, words[m.offset]? = some w → m.subLo ≤ m.subHi ∧ w.lo + m.subHi ≤ w.hi

/-- **trap sites of `highlight` (C01)**: for a well-formed title and record matches that fit their words,
    every slice `source[a .. b]` taken by `highlight` has `a ≤ b ≤ source.len()` -/
theorem hlSafe_of_textOK {t : Text} {rm : List WMatch} (ht : TextOK t) (hm : ∀ m ∈ rm, MatchFits t.words m) :
    hlSafe t.source rm t.words 0 0 = true := by
  -- the walk from word `wi` on, entered at an offset not beyond that word's start
  suffices h : ∀ n wi off, wi + n = t.words.length → off ≤ t.source.length →
      (∀ w, t.words[wi]? = some w → off ≤ w.lo) → hlSafe t.source rm (t.words.drop wi) wi off = true from
    h _ 0 0 (Nat.zero_add _) (Nat.zero_le _) fun _ _ => Nat.zero_le _
  intro n
  induction n with
  | zero =>
    intro wi off h1 h2 _
    rw [List.drop_of_length_le (show t.words.length ≤ wi from Nat.le_of_eq h1.symm)]
    exact decide_eq_true h2
  | succ n ih =>
    intro wi off h1 h2 h3
    have hwi : wi < t.words.length := by omega
    have hb := ht.bounds _ (List.getElem_mem hwi)
    have hlo := h3 _ (List.getElem?_eq_getElem hwi)
    have hhi : (t.words[wi]).hi ≤ t.source.length := ht.lens.1 ▸ hb.2
    have hrest := ih (wi + 1) (t.words[wi]).hi (by omega) hhi fun w hw => by
      obtain ⟨h, rfl⟩ := List.getElem?_eq_some_iff.mp hw
      exact ht.ordered wi h
    rw [List.drop_eq_getElem_cons hwi]
    cases hf : rm.find? (fun m => m.offset == wi) with
    | none =>
      simp only [hlSafe, hf, Bool.and_eq_true, decide_eq_true_eq]
      exact ⟨⟨by omega, hhi⟩, hrest⟩
    | some m =>
      have hoff : m.offset = wi := by simpa using List.find?_some hf
      have := hm m (List.mem_of_find?_eq_some hf) _ (by rw [hoff]; exact List.getElem?_eq_getElem hwi)
      simp only [hlSafe, hf, Bool.and_eq_true, decide_eq_true_eq]
      exact ⟨⟨⟨⟨by omega, this.1⟩, this.2⟩, hhi⟩, hrest⟩

/-! ## the spans of the walk as a map over the record matches -/

/-- the span `(start, length)` a record match marks in the title -/
def spanOf (words : List WordShape) (m : WMatch) : Nat × Nat :=
  ((words.getD m.offset default).lo + m.subLo, m.subHi - m.subLo)

theorem hlSpans_nil (ws : List WordShape) (wi : Nat) : hlSpans [] ws wi = [] := by
  induction ws generalizing wi with
  | nil => rfl
  | cons w ws ih => simp [hlSpans, ih]

theorem hlSpans_cons_lt (m : WMatch) (rm : List WMatch) (ws : List WordShape) {wi : Nat} (h : m.offset < wi) :
    hlSpans (m :: rm) ws wi = hlSpans rm ws wi := by
  induction ws generalizing wi with
  | nil => rfl
  | cons w ws ih =>
    have hne : (m.offset == wi) = false := by simp; omega
    simp only [hlSpans, List.find?_cons, hne]
    rw [ih (by omega)]

theorem hlSpans_skip (rm : List WMatch) (ws : List WordShape) (wi k : Nat) (h : ∀ m ∈ rm, wi + k ≤ m.offset) :
    hlSpans rm ws wi = hlSpans rm (ws.drop k) (wi + k) := by
  induction k generalizing ws wi with
  | zero => rfl
  | succ k ih =>
    cases ws with
    | nil => rfl
    | cons w ws =>
      have hf : rm.find? (fun m => m.offset == wi) = none :=
        List.find?_eq_none.mpr fun m hm => by have := h m hm; simp; omega
      rw [hlSpans, hf, ih ws (wi + 1) fun m hm => by have := h m hm; omega, List.drop_succ_cons,
        Nat.add_right_comm, Nat.add_assoc]

/-- the walk passes over the words before the first match, emits its span at the word it points to, and has no
    further use for it -/
theorem hlSpans_eq_map_aux (words : List WordShape) (rm : List WMatch) :
    ∀ wi, rm.Pairwise (fun a b => a.offset < b.offset) → (∀ m ∈ rm, wi ≤ m.offset ∧ m.offset < words.length) →
      hlSpans rm (words.drop wi) wi = rm.map (spanOf words) := by
  induction rm with
  | nil => intro wi _ _; exact hlSpans_nil _ _
  | cons m rest ih =>
    intro wi hs hb
    rw [List.pairwise_cons] at hs
    obtain ⟨h1, h2⟩ := hb m List.mem_cons_self
    rw [hlSpans_skip _ _ wi (m.offset - wi) (fun x hx => by
        rcases List.mem_cons.mp hx with rfl | hx
        · omega
        · have := hs.1 x hx; omega),
      List.drop_drop, Nat.add_sub_cancel' h1, List.drop_eq_getElem_cons h2, hlSpans,
      List.find?_cons_of_pos (by simp), hlSpans_cons_lt m rest _ (Nat.lt_succ_self _),
      ih (m.offset + 1) hs.2 fun x hx => ⟨hs.1 x hx, (hb x (List.mem_cons_of_mem _ hx)).2⟩]
    simp [spanOf, h2]

theorem hlSpans_eq_map {words : List WordShape} {rm : List WMatch}
    (hs : rm.Pairwise (fun a b => a.offset < b.offset)) (hb : ∀ m ∈ rm, m.offset < words.length) :
    hlSpans rm words 0 = rm.map (spanOf words) :=
  hlSpans_eq_map_aux words rm 0 hs fun m hm => ⟨Nat.zero_le _, hb m hm⟩

end Lucid
