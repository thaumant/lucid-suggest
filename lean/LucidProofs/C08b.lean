/-
  C08b — from the ranking relation of C08 to positions in the result list.

  C08 proves `Outranks (scoreHit K order q r1) (scoreHit K order q r2)` (= `hitLe h1 h2 = true ∧ hitLe h2 h1 = false`,
  strictly before in the order the results are sorted by) for the documented ranking priorities. Here the relation is
  linked to what a caller sees: in the store holding just the two records — whichever was added first — the search
  returns exactly `[result of r1, result of r2]`.

  * `two_store_strict` (`Lemmas/Locality.lean`) — `C07_two_store` with the strictness coming from the hit order
                                  itself instead of from different ratings (no hypothesis on the ratings, none on the
                                  score order);
  * `C08_outranks_position`     — the link, for records given as `Record`s and `Outranks`;
  * `C08_word_beats_longer_word_position`, `C08_identical_titles_rating_position` — two C08 rules restated end to end
    (that both records are hits on their own is derived, resp. needed once for the common title).
-/
import LucidProofs.C07
import LucidProofs.C08

namespace Lucid

/-- **From `Outranks` to positions.** If the hit of record `r1` outranks the hit of record `r2` for the query `q`
    (the conclusion of every C08 rule) and each of the two is a hit on its own (`verdict … = some res`: it shares a
    gram with the query and its matches pass the filter), then a store holding just these two records, with any
    limit ≥ 2, answers `q` with exactly `[res1, res2]` — `r1`'s result first — whether `r1` or `r2` was added first,
    for every sorting routine, whatever the ratings and ids. -/
theorem C08_outranks_position (S : Sorter) (hS : SorterOK S) (K : Consts) (hK : 1 ≤ K.sortFactor)
    (hP : 1 ≤ K.prepFactor) (order : List ScoreType) (limit : Nat) (hl : 2 ≤ limit) (dv : List Nat × List Nat)
    (q : Text) (r1 r2 : Record)
    (hout : Outranks (scoreHit K order q r1) (scoreHit K order q r2))
    (res1 res2 : Result) (hv1 : verdict K dv q r1.data = some res1) (hv2 : verdict K dv q r2.data = some res2) :
    (mkStore K limit dv [r1.data, r2.data]).search S K order q = [res1, res2] ∧
    (mkStore K limit dv [r2.data, r1.data]).search S K order q = [res1, res2] := by
  obtain ⟨_, _, e1, e2, s⟩ := two_store_strict S hS K hP order limit hl dv r1.data r2.data q
    ((verdict_eq_some_iff K order dv q r1 res1).mp hv1).1 ((verdict_eq_some_iff K order dv q r2 res2).mp hv2).1
    hout.1 hout.2
  cases hv1.symm.trans e1
  cases hv2.symm.trans e2
  exact s

theorem C08_outranks_position_src (S : Sorter) (hS : SorterOK S) (limit : Nat) (hl : 2 ≤ limit)
    (dv : List Nat × List Nat) (q : Text) (r1 r2 : Record)
    (hout : Outranks (scoreHit Gen.srcConsts Gen.srcScoreOrder q r1) (scoreHit Gen.srcConsts Gen.srcScoreOrder q r2))
    (res1 res2 : Result) (hv1 : verdict Gen.srcConsts dv q r1.data = some res1)
    (hv2 : verdict Gen.srcConsts dv q r2.data = some res2) :
    (mkStore Gen.srcConsts limit dv [r1.data, r2.data]).search S Gen.srcConsts Gen.srcScoreOrder q = [res1, res2] ∧
    (mkStore Gen.srcConsts limit dv [r2.data, r1.data]).search S Gen.srcConsts Gen.srcScoreOrder q = [res1, res2] :=
  C08_outranks_position S hS Gen.srcConsts (by decide) (by decide) Gen.srcScoreOrder limit hl dv q r1 r2 hout
    res1 res2 hv1 hv2

/-- the same for records already in a store: if `r1` outranks `r2` and both are listed by a search on ANY store, then
    `r1`'s result precedes `r2`'s in the result list of that store -/
theorem C08_outranks_before (S : Sorter) (hS : SorterOK S) (K : Consts) (hK : 1 ≤ K.sortFactor)
    (order : List ScoreType) (st : Store) (q : Text) (r1 r2 : Record)
    (hout : Outranks (scoreHit K order q r1) (scoreHit K order q r2))
    (i j : Nat) (hi : (st.listed S K order q)[i]? = some r1) (hj : (st.listed S K order q)[j]? = some r2) : i < j := by
  obtain ⟨hil, rfl⟩ := List.getElem?_eq_some_iff.1 hi
  obtain ⟨hjl, rfl⟩ := List.getElem?_eq_some_iff.1 hj
  -- `r2` is not at or before `r1`: the list is sorted, and `hitLe r2 r1` fails
  refine Nat.lt_of_le_of_ne (Nat.le_of_not_lt fun h => ?_) fun h => ?_
  · exact Bool.false_ne_true
      (hout.2.symm.trans (List.pairwise_iff_getElem.1 (C07_sorted S hS K hK order st q).2 j i hjl hil h))
  · subst h
    exact Bool.false_ne_true (hout.2.symm.trans hout.1)

/-! ### two C08 rules, end to end -/

theorem isHit_one_typed (K : Consts) (hK : CostsOK K = true) (hN : GateNumsOK K = true) (rt qt : Text)
    (w v : WordShape) (hrt : TextOK rt) (hqt : TextOK qt) (hrw : rt.words = [w]) (hqw : qt.words = [v])
    (ht : Typed rt w qt v) : isHit K qt rt = true := by
  have hw : w ∈ rt.words := by simp [hrw]
  have hv : v ∈ qt.words := by simp [hqw]
  have hvin := hqt.wordIn hv
  have hg : sharesGram qt rt = true :=
    sharesGram_iff.2 (shares_gram_of_prefix hw hv (wchars_ne_nil hvin) (ht.pre hvin ▸ List.take_prefix _ _))
  simp only [isHit, hg, Bool.or_true, Bool.true_and]
  refine (hitMatches_single _ (by rw [hqw]; rfl)).mpr ?_
  show (textMatch K rt qt).1 ≠ []
  rw [textMatch_one K hK hN rt qt w v hrt hqt hrw hqw ht]
  exact List.cons_ne_nil _ _

/-- **C08 (c) in positions: "hello" comes before "helloxy".** One-word titles `w1` (characters `u`, a content word)
    and `w2` (characters `u ++ tail`, `tail ≠ []`), and the user types a prefix of `u` (or all of it) as one
    unfinished word. Then both records are hits, and a store holding just the two (limit ≥ 2) returns
    `[result of r1, result of r2]`: the shorter title first, **whatever the ratings** and whichever was added
    first. -/
theorem C08_word_beats_longer_word_position (S : Sorter) (hS : SorterOK S) (K : Consts)
    (hC : CostsOK K = true) (hN : GateNumsOK K = true) (hK : 1 ≤ K.sortFactor) (hP : 1 ≤ K.prepFactor)
    (limit : Nat) (hl : 2 ≤ limit) (dv : List Nat × List Nat)
    (q : Text) (r1 r2 : Record) (w1 w2 v : WordShape)
    (h1 : TextOK r1.title) (h2 : TextOK r2.title) (hq : TextOK q)
    (hw1 : r1.title.words = [w1]) (hw2 : r2.title.words = [w2]) (hqw : q.words = [v])
    (hunfin : v.fin = false) (htyped : Typed r1.title w1 q v)
    (hlong : wchars r1.title w1 = (wchars r2.title w2).take w1.len) (htail : w1.len < w2.len)
    (hcontent : isFunc K w1.pos = false) :
    ∃ res1 res2, verdict K dv q r1.data = some res1 ∧ verdict K dv q r2.data = some res2 ∧
      (mkStore K limit dv [r1.data, r2.data]).search S K Gen.srcScoreOrder q = [res1, res2] ∧
      (mkStore K limit dv [r2.data, r1.data]).search S K Gen.srcScoreOrder q = [res1, res2] := by
  have hout := C08_word_beats_longer_word K hC hN q r1 r2 w1 w2 v h1 h2 hq hw1 hw2 hqw hunfin htyped hlong htail
    hcontent
  exact two_store_strict S hS K hP Gen.srcScoreOrder limit hl dv r1.data r2.data q
    (isHit_one_typed K hC hN r1.title q w1 v h1 hq hw1 hqw htyped)
    (isHit_one_typed K hC hN r2.title q w2 v h2 hq hw2 hqw
      (htyped.of_prefix (h1.wordIn (by simp [hw1])) (hq.wordIn (by simp [hqw])) hunfin hlong)) hout.1 hout.2

theorem C08_word_beats_longer_word_position_src (S : Sorter) (hS : SorterOK S)
    (limit : Nat) (hl : 2 ≤ limit) (dv : List Nat × List Nat)
    (q : Text) (r1 r2 : Record) (w1 w2 v : WordShape)
    (h1 : TextOK r1.title) (h2 : TextOK r2.title) (hq : TextOK q)
    (hw1 : r1.title.words = [w1]) (hw2 : r2.title.words = [w2]) (hqw : q.words = [v])
    (hunfin : v.fin = false) (htyped : Typed r1.title w1 q v)
    (hlong : wchars r1.title w1 = (wchars r2.title w2).take w1.len) (htail : w1.len < w2.len)
    (hcontent : isFunc Gen.srcConsts w1.pos = false) :
    ∃ res1 res2, verdict Gen.srcConsts dv q r1.data = some res1 ∧ verdict Gen.srcConsts dv q r2.data = some res2 ∧
      (mkStore Gen.srcConsts limit dv [r1.data, r2.data]).search S Gen.srcConsts Gen.srcScoreOrder q = [res1, res2] ∧
      (mkStore Gen.srcConsts limit dv [r2.data, r1.data]).search S Gen.srcConsts Gen.srcScoreOrder q = [res1, res2] :=
  C08_word_beats_longer_word_position S hS Gen.srcConsts costsOK_src gateNumsOK_src (by decide) (by decide) limit hl dv
    q r1 r2 w1 w2 v h1 h2 hq hw1 hw2 hqw hunfin htyped hlong htail hcontent

/-- **C08 (f1) in positions: among identical titles the higher rating comes first.** Two records with the same title,
    which is a hit for the query on its own, `r1` rated higher: a store holding just the two (limit ≥ 2) returns
    `[result of r1, result of r2]`, whichever was added first. (The two results differ only in the id.) -/
theorem C08_identical_titles_rating_position (S : Sorter) (hS : SorterOK S) (K : Consts)
    (hK : 1 ≤ K.sortFactor) (hP : 1 ≤ K.prepFactor) (limit : Nat) (hl : 2 ≤ limit) (dv : List Nat × List Nat)
    (q : Text) (r1 r2 : Record) (htitle : r1.title = r2.title) (hrating : r2.rating < r1.rating)
    (hhit : isHit K q r1.title = true) :
    ∃ res1 res2, verdict K dv q r1.data = some res1 ∧ verdict K dv q r2.data = some res2 ∧
      res1.id = r1.id ∧ res2.id = r2.id ∧ res1.title = res2.title ∧
      (mkStore K limit dv [r1.data, r2.data]).search S K Gen.srcScoreOrder q = [res1, res2] ∧
      (mkStore K limit dv [r2.data, r1.data]).search S K Gen.srcScoreOrder q = [res1, res2] := by
  have hout := C08_identical_titles_rating K q r1 r2 htitle hrating
  obtain ⟨x1, x2, e1, e2, s⟩ := two_store_strict S hS K hP Gen.srcScoreOrder limit hl dv r1.data r2.data q
    hhit (htitle ▸ hhit : isHit K q r2.title = true) hout.1 hout.2
  obtain ⟨_, rfl⟩ := (verdict_eq_some_iff K Gen.srcScoreOrder dv q r1 x1).mp e1
  obtain ⟨_, rfl⟩ := (verdict_eq_some_iff K Gen.srcScoreOrder dv q r2 x2).mp e2
  exact ⟨_, _, e1, e2, rfl, rfl, by simp only [renderWith, highlight, scoreHit, htitle], s⟩

theorem C08_identical_titles_rating_position_src (S : Sorter) (hS : SorterOK S)
    (limit : Nat) (hl : 2 ≤ limit) (dv : List Nat × List Nat)
    (q : Text) (r1 r2 : Record) (htitle : r1.title = r2.title) (hrating : r2.rating < r1.rating)
    (hhit : isHit Gen.srcConsts q r1.title = true) :
    ∃ res1 res2, verdict Gen.srcConsts dv q r1.data = some res1 ∧ verdict Gen.srcConsts dv q r2.data = some res2 ∧
      res1.id = r1.id ∧ res2.id = r2.id ∧ res1.title = res2.title ∧
      (mkStore Gen.srcConsts limit dv [r1.data, r2.data]).search S Gen.srcConsts Gen.srcScoreOrder q = [res1, res2] ∧
      (mkStore Gen.srcConsts limit dv [r2.data, r1.data]).search S Gen.srcConsts Gen.srcScoreOrder q = [res1, res2] :=
  C08_identical_titles_rating_position S hS Gen.srcConsts (by decide) (by decide) limit hl dv q r1 r2 htitle hrating hhit

/-! ### non-vacuity -/

section Examples
open C08Example

/-- "hello" (rating 0) and "helloxy" (rating 1000), typed prefix "hel": the hypotheses of
    `C08_word_beats_longer_word_position_src` are met -/
example (S : Sorter) (hS : SorterOK S) :
    ∃ res1 res2, res1.id = 1 ∧ res2.id = 2 ∧
      (mkStore Gen.srcConsts 10 ([91], [93]) [(1, tU, 0), (2, tUtail, 1000)]).search S Gen.srcConsts Gen.srcScoreOrder
        qHel = [res1, res2] ∧
      (mkStore Gen.srcConsts 10 ([91], [93]) [(2, tUtail, 1000), (1, tU, 0)]).search S Gen.srcConsts Gen.srcScoreOrder
        qHel = [res1, res2] := by
  obtain ⟨res1, res2, v1, v2, s1, s2⟩ :=
    C08_word_beats_longer_word_position_src S hS 10 (by decide) ([91], [93]) qHel ⟨0, 1, tU, 0⟩ ⟨1, 2, tUtail, 1000⟩
      _ _ _ tU_ok tUtail_ok qHel_ok rfl rfl rfl rfl (by unfold Typed; decide) (by decide) (by decide) (by decide)
  obtain ⟨_, rfl⟩ := (verdict_eq_some_iff _ Gen.srcScoreOrder _ _ ⟨0, 1, tU, 0⟩ _).mp v1
  obtain ⟨_, rfl⟩ := (verdict_eq_some_iff _ Gen.srcScoreOrder _ _ ⟨1, 2, tUtail, 1000⟩ _).mp v2
  exact ⟨_, _, rfl, rfl, s1, s2⟩

/-- the same title "hello" with ratings 5 and 3, typed prefix "hel": the hypotheses of
    `C08_identical_titles_rating_position_src` are met (`isHit` through `isHit_one_typed`) -/
example (S : Sorter) (hS : SorterOK S) :
    ∃ res1 res2, res1.id = 7 ∧ res2.id = 8 ∧
      (mkStore Gen.srcConsts 2 ([91], [93]) [(8, tU, 3), (7, tU, 5)]).search S Gen.srcConsts Gen.srcScoreOrder qHel
        = [res1, res2] := by
  obtain ⟨res1, res2, _, _, i1, i2, _, _, s2⟩ :=
    C08_identical_titles_rating_position_src S hS 2 (by decide) ([91], [93]) qHel ⟨0, 7, tU, 5⟩ ⟨1, 8, tU, 3⟩ rfl
      (by decide)
      (isHit_one_typed Gen.srcConsts costsOK_src gateNumsOK_src tU qHel _ _ tU_ok qHel_ok rfl rfl
        (by unfold Typed; decide))
  exact ⟨res1, res2, i1, i2, s2⟩

/-- `C08_outranks_position_src` applied to the C08 example for rule (c) -/
example (S : Sorter) (hS : SorterOK S) (res1 res2 : Result)
    (hv1 : verdict Gen.srcConsts ([91], [93]) qHel (1, tU, 0) = some res1)
    (hv2 : verdict Gen.srcConsts ([91], [93]) qHel (2, tUtail, 1000) = some res2) :
    (mkStore Gen.srcConsts 5 ([91], [93]) [(2, tUtail, 1000), (1, tU, 0)]).search S Gen.srcConsts Gen.srcScoreOrder
      qHel = [res1, res2] :=
  (C08_outranks_position_src S hS 5 (by decide) ([91], [93]) qHel ⟨0, 1, tU, 0⟩ ⟨1, 2, tUtail, 1000⟩
    (C08_word_beats_longer_word_src qHel _ _ _ _ _ tU_ok tUtail_ok qHel_ok rfl rfl rfl rfl
      (by unfold Typed; decide) (by decide) (by decide) (by decide)) res1 res2 hv1 hv2).2

end Examples

end Lucid
