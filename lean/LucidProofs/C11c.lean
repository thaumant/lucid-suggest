/-
  C11c — the spelling variants of C11 COMBINED: one theorem for a query in which some letters are folded
  (`ö→o`, `ß→ss`, `é→e`, …), any letters are re-cased, and some accented letters are written in decomposed form,
  all at once.

  HOW A COMBINED VARIANT IS WRITTEN (base query `s`, any masks, any re-casing):
      f  := foldAt reduce s fmask            -- fold the letters selected by `fmask`
      s' := any string with  s'.map lower1 = f.map lower1     -- re-case any letters of `f`
      v  := decompAt compose s' dmask        -- write the accented letters selected by `dmask` as base + mark
  Decomposition comes last because it is the only step that creates free-standing combining marks; a letter that was
  folded has no accent left to decompose, and folding / re-casing commute up to case (`CaseClosedOn`), so every
  combination of the three per-letter changes is of this form.

  WHICH STRINGS MUST BE FREE OF FREE-STANDING COMBINING MARKS (`MarkFree`):
    * `s`  — hypothesis;
    * `f`  — PROVED from `MarkFree s` (`foldAt_markFree`, table condition `FoldMarkFree`);
    * `s'` — hypothesis (a re-casing replaces characters by arbitrary characters with the same lower-case form;
             that none of them is a combining mark of the compose table is a fact about `s'`, decidable by `decide`);
    * `v`  — not required (it contains marks by construction; `compose` undoes them, `ComposeClosed`).
  Oracle-relative hypotheses (re-casing step only): `CaseClosedOn` on the characters of `f` and `s'`, `SepLowerOn` on
  the normalised characters of `s` and `s'`. Both are theorems for the real tables of Rust's `std`, so the `_std`
  forms have none.
-/
import LucidProofs.C11b
import LucidProofs.Lemmas.UnicodeSrc

namespace Lucid
open Gen

/-- **C11, combined variants.** Let `s` be a query without free-standing combining marks; fold any subset of its
    letters (`fmask`), re-case any letters of the result (`s'`), and write any subset of the accented letters of
    `s'` in decomposed form (`dmask`). The tokenised query is the same as that of `s` up to `source` (same words,
    same normalised characters, same character classes). -/
theorem C11_combined_variant (E : Env) (hU : UnicodeFacts E.U E.K) (hC : ComposeClosed E.T.compose = true)
    (hF : FoldClosed E.T.reduce = true) (hM : FoldMarkFree E.T = true)
    (s : List Nat) (hs : MarkFree E.T.compose s) (fmask dmask : List Bool)
    (s' : List Nat) (hs' : MarkFree E.T.compose s')
    (hcase : s'.map E.U.lower1 = (foldAt E.T.reduce s fmask).map E.U.lower1)
    (hcc : CaseClosedOn E (foldAt E.T.reduce s fmask ++ s'))
    (hsl : SepLowerOn E (normChars E s ++ normChars E s')) :
    (tokenizeQuery srcProg E (decompAt E.T.compose s' dmask)).sameUpToSource (tokenizeQuery srcProg E s) := by
  have hf : MarkFree E.T.compose (foldAt E.T.reduce s fmask) := foldAt_markFree E.T hM s hs fmask
  have hsl' : SepLowerOn E (normChars E (foldAt E.T.reduce s fmask) ++ normChars E s') := by
    rw [normChars_foldAt E hC hF hM s hs fmask]; exact hsl
  have h1 := Text.sameUpToSource.of_eq (C11_decompose_variant E hC s' hs' dmask)
  have h2 := C11_recase_variant E hU hC hF (foldAt E.T.reduce s fmask) s' hf hs' hcase hcc hsl'
  have h3 := C11_fold_variant E hC hF hM s hs fmask
  exact (h1.trans h2).trans h3

/-- Hence the combined variant searches exactly like `s`: same hit list, same highlighted titles, same store after
    the call (sorter treating hits as opaque values, `SorterNatural`). -/
theorem C11_combined_search {S : Sorter} (hS : SorterNatural S) (E : Env) (K : Consts) (order : List ScoreType)
    (st : Store) (hU : UnicodeFacts E.U E.K) (hC : ComposeClosed E.T.compose = true)
    (hF : FoldClosed E.T.reduce = true) (hM : FoldMarkFree E.T = true)
    (s : List Nat) (hs : MarkFree E.T.compose s) (fmask dmask : List Bool)
    (s' : List Nat) (hs' : MarkFree E.T.compose s')
    (hcase : s'.map E.U.lower1 = (foldAt E.T.reduce s fmask).map E.U.lower1)
    (hcc : CaseClosedOn E (foldAt E.T.reduce s fmask ++ s'))
    (hsl : SepLowerOn E (normChars E s ++ normChars E s')) :
    st.searchM S K order (tokenizeQuery srcProg E (decompAt E.T.compose s' dmask)) =
      st.searchM S K order (tokenizeQuery srcProg E s) :=
  C11_searchM_congr hS K order st
    (QEquiv.of_sameUpToSource (C11_combined_variant E hU hC hF hM s hs fmask dmask s' hs' hcase hcc hsl))

/-- the three table conditions discharged for every language of the generated registry list -/
theorem C11_combined_variant_src (E : Env) (hU : UnicodeFacts E.U E.K) {name : String}
    (hT : (name, E.T) ∈ srcLangs) (s : List Nat) (hs : MarkFree E.T.compose s) (fmask dmask : List Bool)
    (s' : List Nat) (hs' : MarkFree E.T.compose s')
    (hcase : s'.map E.U.lower1 = (foldAt E.T.reduce s fmask).map E.U.lower1)
    (hcc : CaseClosedOn E (foldAt E.T.reduce s fmask ++ s'))
    (hsl : SepLowerOn E (normChars E s ++ normChars E s')) :
    (tokenizeQuery srcProg E (decompAt E.T.compose s' dmask)).sameUpToSource (tokenizeQuery srcProg E s) :=
  C11_combined_variant E hU (variantTablesOK_of_src hT).1 (variantTablesOK_of_src hT).2.1
    (variantTablesOK_of_src hT).2.2 s hs fmask dmask s' hs' hcase hcc hsl

/-- **C11, combined variants, real Unicode tables, each generated language.** With the character predicates and
    `to_lowercase` of Rust's `std`: for a mark-free query `s`, any fold mask, any mark-free re-casing `s'` of the
    folded string and any decomposition mask, the tokenised queries agree up to `source`. No hypothesis about the
    tables or about Unicode is left. -/
theorem C11_combined_variant_std {name : String} {T : LangTables} (hT : (name, T) ∈ srcLangs)
    (stem : List Nat → Nat) (s : List Nat) (hs : MarkFree T.compose s) (fmask dmask : List Bool)
    (s' : List Nat) (hs' : MarkFree T.compose s')
    (hcase : s'.map srcUnicode.lower1 = (foldAt T.reduce s fmask).map srcUnicode.lower1) :
    (tokenizeQuery srcProg (stdEnv T stem) (decompAt T.compose s' dmask)).sameUpToSource
      (tokenizeQuery srcProg (stdEnv T stem) s) :=
  C11_combined_variant_src (stdEnv T stem) unicodeFacts_src hT s hs fmask dmask s' hs' hcase
    (caseClosedOn_src _ rfl hT _) (sepLowerOn_src _ rfl rfl _)

/-- … and they search alike in every store: same ids, same highlighted titles, same store afterwards
    (`SorterNatural` is the only hypothesis left). -/
theorem C11_combined_search_std {S : Sorter} (hS : SorterNatural S) {name : String} {T : LangTables}
    (hT : (name, T) ∈ srcLangs) (stem : List Nat → Nat) (st : Store)
    (s : List Nat) (hs : MarkFree T.compose s) (fmask dmask : List Bool)
    (s' : List Nat) (hs' : MarkFree T.compose s')
    (hcase : s'.map srcUnicode.lower1 = (foldAt T.reduce s fmask).map srcUnicode.lower1) :
    st.searchM S srcConsts srcScoreOrder (tokenizeQuery srcProg (stdEnv T stem) (decompAt T.compose s' dmask)) =
      st.searchM S srcConsts srcScoreOrder (tokenizeQuery srcProg (stdEnv T stem) s) :=
  C11_searchM_congr hS _ _ st
    (QEquiv.of_sameUpToSource (C11_combined_variant_std hT stem s hs fmask dmask s' hs' hcase))

/-- the results only -/
theorem C11_combined_results_std {S : Sorter} (hS : SorterNatural S) {name : String} {T : LangTables}
    (hT : (name, T) ∈ srcLangs) (stem : List Nat → Nat) (st : Store)
    (s : List Nat) (hs : MarkFree T.compose s) (fmask dmask : List Bool)
    (s' : List Nat) (hs' : MarkFree T.compose s')
    (hcase : s'.map srcUnicode.lower1 = (foldAt T.reduce s fmask).map srcUnicode.lower1) :
    st.search S srcConsts srcScoreOrder (tokenizeQuery srcProg (stdEnv T stem) (decompAt T.compose s' dmask)) =
      st.search S srcConsts srcScoreOrder (tokenizeQuery srcProg (stdEnv T stem) s) := by
  simp only [Store.search, C11_combined_search_std hS hT stem st s hs fmask dmask s' hs' hcase]

/-- library level: `search` with the combined variant leaves the registry (stores and result buffers) exactly as
    `search` with the base query does, when every store addressed by `id` uses the real Unicode tables and the
    language tables `T` -/
theorem C11_combined_registry_std {S : Sorter} (hS : SorterNatural S) (envs : Nat → Env) (g : Registry) (id : Nat)
    {name : String} {T : LangTables} (hT : (name, T) ∈ srcLangs)
    (henv : ∀ lang st, amGet g.stores id = some (lang, st) → ∃ stem, envs lang = stdEnv T stem)
    (s : List Nat) (hs : MarkFree T.compose s) (fmask dmask : List Bool)
    (s' : List Nat) (hs' : MarkFree T.compose s')
    (hcase : s'.map srcUnicode.lower1 = (foldAt T.reduce s fmask).map srcUnicode.lower1) :
    Registry.step S srcProg envs g (.runSearch id (decompAt T.compose s' dmask)) =
      Registry.step S srcProg envs g (.runSearch id s) := by
  apply step_runSearch_congr
  intro lang st hg
  obtain ⟨stem, he⟩ := henv lang st hg
  rw [he]
  exact C11_combined_search_std hS hT stem st s hs fmask dmask s' hs' hcase

section Examples

/-- German: base `Über Straße`; fold `ß` (position 9) → `Über Strasse`; re-case → `üBER STRASSE`; decompose the `ü`
    → `u` U+0308 `BER STRASSE` -/
private def exS : List Nat := [220, 98, 101, 114, 32, 83, 116, 114, 97, 223, 101]
private def exFmask : List Bool := [false, false, false, false, false, false, false, false, false, true]
private def exS' : List Nat := [252, 66, 69, 82, 32, 83, 84, 82, 65, 83, 83, 69]

example : foldAt lang_de.reduce exS exFmask = [220, 98, 101, 114, 32, 83, 116, 114, 97, 115, 115, 101] := by decide
example : decompAt lang_de.compose exS' [true] = [117, 776, 66, 69, 82, 32, 83, 84, 82, 65, 83, 83, 69] := by decide
example : MarkFree lang_de.compose exS ∧ MarkFree lang_de.compose exS' := ⟨by decide, by decide⟩
/-- the decomposed variant itself is NOT mark-free (and need not be) -/
example : ¬ MarkFree lang_de.compose (decompAt lang_de.compose exS' [true]) := by decide

/-- real tables: every hypothesis of `C11_combined_results_std` holds, so `uBER STRASSE` typed with a combining
    diaeresis after the `u` searches like `Über Straße` in every store, with any stemmer -/
example (st : Store) (stem : List Nat → Nat) :
    st.search insSorter srcConsts srcScoreOrder
        (tokenizeQuery srcProg (stdEnv lang_de stem) [117, 776, 66, 69, 82, 32, 83, 84, 82, 65, 83, 83, 69]) =
      st.search insSorter srcConsts srcScoreOrder (tokenizeQuery srcProg (stdEnv lang_de stem) exS) :=
  C11_combined_results_std insSorter_natural (name := "de") (.tail _ (.head _)) stem st exS (by decide +kernel) exFmask
    [true] exS' (by decide +kernel) (by rw [srcUnicode_eq_fast]; decide +kernel)

/-- the Latin-1 oracle of C11b: every hypothesis of the general theorem holds for the same strings -/
example : (tokenizeQuery srcProg (latinEnv lang_de) (decompAt lang_de.compose exS' [true])).sameUpToSource
    (tokenizeQuery srcProg (latinEnv lang_de) exS) :=
  C11_combined_variant (latinEnv lang_de) latinU_facts composeClosed_de foldClosed_de foldMarkFree_de exS
    (by decide +kernel) exFmask [true] exS' (by decide +kernel) (by decide +kernel)
    (by unfold CaseClosedOn; decide +kernel) (latinU_sepLower _ _)

end Examples

end Lucid
