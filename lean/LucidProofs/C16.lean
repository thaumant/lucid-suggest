/-
  C16 — the weighted Damerau-Levenshtein distance of `matching/damlev` (`Lucid.distanceM`, the executable
  loops over the reused flat matrix): zero iff equal, symmetric, multiple of 0.5, at most the plain
  Levenshtein distance, at least half the unrestricted Damerau-Levenshtein distance, lowered (never raised)
  by the vowel / non-letter / doubled-letter discounts, independent of earlier calls, and every prefix cell
  holds the distance of those prefixes. Distances are in tenths (0.5 = 5, 1.0 = 10).
  The specification `DL.D`, its algebra and the loop refinement live in
  `LucidProofs/Lemmas/Damlev{Spec,Bounds,Refine}.lean`; here the statements, and the few definitions and lemmas
  only they need (`plainWord`, `noDouble`, `k_le_plain`: a word with all discounts removed; `distance_single`: the
  loops on one-letter words; `pre_ok`: prefixes of a word meet the hypotheses).

  Hypotheses used below (all about the two words as the distance function sees them, `CWord`):
  * `DL.Aligned w`  : one cost per character (`WordView::chars().len() == classes().len()`);
  * `DL.CostLe w`   : every per-character cost ≤ 1.0;
  * `DL.CostPos w`  : every per-character cost > 0;
  * `DL.CostMul5 w` : every per-character cost is a multiple of 0.5;
  * `DL.MInv m`     : the reused matrix has its shape and sentinels (true of `Mat.new (n+2)` and preserved by
                      every call) — nothing is assumed about the other cells.
  `cword_*` (`Lemmas/WordMatchSpec.lean`) show that the words built by the word matcher (`Lucid.cword`) meet them all.
-/
import LucidProofs.Lemmas.DamlevBounds
import LucidProofs.Lemmas.DamlevRefine

namespace Lucid
open DL

/-! ### a concrete instance used for the non-vacuity examples: "abca" vs "acba" with a vowel discount -/

def exA : CWord := { ch := [97, 98, 99, 97], cost := [5, 10, 10, 5] }
def exB : CWord := { ch := [97, 99, 98, 97], cost := [5, 10, 10, 5] }

theorem exA_ok : Aligned exA ∧ CostLe exA ∧ CostPos exA ∧ CostMul5 exA := by
  unfold Aligned CostLe CostPos CostMul5; decide
theorem exB_ok : Aligned exB ∧ CostLe exB ∧ CostPos exB ∧ CostMul5 exB := by
  unfold Aligned CostLe CostPos CostMul5; decide
theorem exM_ok : MInv (Mat.new (Gen.srcConsts.matCap + 2)) := (MInv_new _).1

-- the loops give 0.5 (one transposition) for this pair, on a small matrix that has to grow first
example : (distanceM Gen.srcConsts (Mat.new 3) exA exB).1 = 5 := by decide +kernel

/-- The distance computed by the loops is the recursive specification `DL.D` of the two whole words,
    whatever the reused matrix held before. -/
theorem C16_spec (K : Consts) (m : Mat) (hm : MInv m) (a b : CWord)
    (ha : Aligned a) (hb : Aligned b) (hca : CostLe a) (hcb : CostLe b) :
    (distanceM K m a b).1 = D K a b a.len b.len :=
  (distance_refines K a b ha hb hca hcb m hm).1

/-- The distance between two words is zero exactly when they are the same word. -/
theorem C16_zero_iff_eq (K : Consts) (hK : CostsOK K = true) (m : Mat) (hm : MInv m) (a b : CWord)
    (ha : Aligned a) (hb : Aligned b) (hca : CostLe a) (hcb : CostLe b) (hpa : CostPos a) (hpb : CostPos b) :
    (distanceM K m a b).1 = 0 ↔ a.ch = b.ch := by
  rw [C16_spec K m hm a b ha hb hca hcb,
    D_eq_zero_iff K (KOK_of_CostsOK K hK) a b ha hb hpa hpb a.len b.len (Nat.le_refl _) (Nat.le_refl _)]
  exact prefix_eq_iff a b

theorem C16_zero_iff_eq_src (m : Mat) (hm : MInv m) (a b : CWord)
    (ha : Aligned a) (hb : Aligned b) (hca : CostLe a) (hcb : CostLe b) (hpa : CostPos a) (hpb : CostPos b) :
    (distanceM Gen.srcConsts m a b).1 = 0 ↔ a.ch = b.ch :=
  C16_zero_iff_eq Gen.srcConsts costsOK_src m hm a b ha hb hca hcb hpa hpb

example : (distanceM Gen.srcConsts (Mat.new (Gen.srcConsts.matCap + 2)) exA exB).1 = 0 ↔ exA.ch = exB.ch :=
  C16_zero_iff_eq_src _ exM_ok exA exB exA_ok.1 exB_ok.1 exA_ok.2.1 exB_ok.2.1 exA_ok.2.2.1 exB_ok.2.2.1

/-- The distance is symmetric: comparing `a` with `b` gives the same number as comparing `b` with `a`
    (on any two matrix states). -/
theorem C16_symm (K : Consts) (m m' : Mat) (hm : MInv m) (hm' : MInv m') (a b : CWord)
    (ha : Aligned a) (hb : Aligned b) (hca : CostLe a) (hcb : CostLe b) :
    (distanceM K m a b).1 = (distanceM K m' b a).1 := by
  rw [C16_spec K m hm a b ha hb hca hcb, C16_spec K m' hm' b a hb ha hcb hca]
  exact D_symm K a b a.len b.len

example : (distanceM Gen.srcConsts (Mat.new 22) exA exB).1 = (distanceM Gen.srcConsts (Mat.new 7) exB exA).1 :=
  C16_symm _ _ _ (MInv_new 20).1 (MInv_new 5).1 exA exB exA_ok.1 exB_ok.1 exA_ok.2.1 exB_ok.2.1

/-- The distance is a multiple of 0.5. -/
theorem C16_multiple_of_half (K : Consts) (hK : CostsOK K = true) (m : Mat) (hm : MInv m) (a b : CWord)
    (ha : Aligned a) (hb : Aligned b) (hca : CostLe a) (hcb : CostLe b) (h5a : CostMul5 a) (h5b : CostMul5 b) :
    (distanceM K m a b).1 % 5 = 0 := by
  rw [C16_spec K m hm a b ha hb hca hcb]
  exact D_mod5 K (KOK_of_CostsOK K hK) a b h5a h5b _ _

theorem C16_multiple_of_half_src (m : Mat) (hm : MInv m) (a b : CWord)
    (ha : Aligned a) (hb : Aligned b) (hca : CostLe a) (hcb : CostLe b) (h5a : CostMul5 a) (h5b : CostMul5 b) :
    (distanceM Gen.srcConsts m a b).1 % 5 = 0 :=
  C16_multiple_of_half Gen.srcConsts costsOK_src m hm a b ha hb hca hcb h5a h5b

example : (distanceM Gen.srcConsts (Mat.new (Gen.srcConsts.matCap + 2)) exA exB).1 % 5 = 0 :=
  C16_multiple_of_half_src _ exM_ok exA exB exA_ok.1 exB_ok.1 exA_ok.2.1 exB_ok.2.1 exA_ok.2.2.2 exB_ok.2.2.2

/-- The distance never exceeds the plain (unit-cost, no transposition) Levenshtein distance `DL.lev`
    of the two words. -/
theorem C16_le_levenshtein (K : Consts) (m : Mat) (hm : MInv m) (a b : CWord)
    (ha : Aligned a) (hb : Aligned b) (hca : CostLe a) (hcb : CostLe b) :
    (distanceM K m a b).1 ≤ 10 * lev a.ch b.ch a.len b.len := by
  rw [C16_spec K m hm a b ha hb hca hcb]
  exact D_le_lev K a b hca hcb _ _

example : (distanceM Gen.srcConsts (Mat.new 22) exA exB).1 ≤ 10 * lev exA.ch exB.ch exA.len exB.len :=
  C16_le_levenshtein _ _ (MInv_new 20).1 exA exB exA_ok.1 exB_ok.1 exA_ok.2.1 exB_ok.2.1

/-- The distance is never less than half the unrestricted Damerau-Levenshtein distance `DL.DLunit`
    (unit costs; Lowrance-Wagner recurrence) of the two words. -/
theorem C16_ge_half_damlev (K : Consts) (hK : CostsOK K = true) (m : Mat) (hm : MInv m) (a b : CWord)
    (ha : Aligned a) (hb : Aligned b) (hca : CostLe a) (hcb : CostLe b)
    (hpa : CostPos a) (hpb : CostPos b) (h5a : CostMul5 a) (h5b : CostMul5 b) :
    5 * DLunit a.ch b.ch a.len b.len ≤ (distanceM K m a b).1 := by
  rw [C16_spec K m hm a b ha hb hca hcb]
  exact D_ge_DLunit K (KOK_of_CostsOK K hK) a b ha hb hpa hpb h5a h5b _ _ (Nat.le_refl _) (Nat.le_refl _)

theorem C16_ge_half_damlev_src (m : Mat) (hm : MInv m) (a b : CWord)
    (ha : Aligned a) (hb : Aligned b) (hca : CostLe a) (hcb : CostLe b)
    (hpa : CostPos a) (hpb : CostPos b) (h5a : CostMul5 a) (h5b : CostMul5 b) :
    5 * DLunit a.ch b.ch a.len b.len ≤ (distanceM Gen.srcConsts m a b).1 :=
  C16_ge_half_damlev Gen.srcConsts costsOK_src m hm a b ha hb hca hcb hpa hpb h5a h5b

example : 5 * DLunit exA.ch exB.ch exA.len exB.len ≤
    (distanceM Gen.srcConsts (Mat.new (Gen.srcConsts.matCap + 2)) exA exB).1 :=
  C16_ge_half_damlev_src _ exM_ok exA exB exA_ok.1 exB_ok.1 exA_ok.2.1 exB_ok.2.1 exA_ok.2.2.1 exB_ok.2.2.1
    exA_ok.2.2.2 exB_ok.2.2.2

/-- Discounts can only lower the distance: if the same two character strings are compared with per-character
    costs that are pointwise no larger (vowel, non-letter discounts) and with doubled-letter / single / transposition
    constants that are no larger, the distance is no larger. -/
theorem C16_discounts_lower (K K' : Consts) (m m' : Mat) (hm : MInv m) (hm' : MInv m') (a a' b b' : CWord)
    (ha : Aligned a) (hb : Aligned b) (hca : CostLe a) (hcb : CostLe b)
    (ha' : Aligned a') (hb' : Aligned b') (hca' : CostLe a') (hcb' : CostLe b')
    (hcha : a.ch = a'.ch) (hchb : b.ch = b'.ch)
    (hka : ∀ i, a.k i ≤ a'.k i) (hkb : ∀ j, b.k j ≤ b'.k j)
    (hT : K.costTrans ≤ K'.costTrans) (hD : K.costDouble ≤ K'.costDouble) (hS : K.costSingle ≤ K'.costSingle) :
    (distanceM K m a b).1 ≤ (distanceM K' m' a' b').1 := by
  rw [C16_spec K m hm a b ha hb hca hcb, C16_spec K' m' hm' a' b' ha' hb' hca' hcb']
  rw [show a.len = a'.len from congrArg List.length hcha, show b.len = b'.len from congrArg List.length hchb]
  exact D_mono K K' a a' b b' hcha hchb hka hkb hT hD hS _ _

/-- the word with every per-character cost set to the full 1.0 (no vowel / non-letter discount) -/
def plainWord (w : CWord) : CWord := { ch := w.ch, cost := w.ch.map (fun _ => 10) }
/-- the constants without the doubled-letter discount -/
def noDouble (K : Consts) : Consts := { K with costDouble := K.costSingle }

theorem plainWord_ok (w : CWord) : Aligned (plainWord w) ∧ CostLe (plainWord w) := by
  refine ⟨by simp [Aligned, plainWord], ?_⟩
  intro x hx
  simp only [plainWord, List.mem_map] at hx
  obtain ⟨_, _, rfl⟩ := hx
  exact Nat.le_refl _

theorem k_le_plain (w : CWord) (ha : Aligned w) (hc : CostLe w) (i : Nat) : w.k i ≤ (plainWord w).k i := by
  by_cases hi : i < w.ch.length
  · have : (plainWord w).k i = 10 := by simp [plainWord, CWord.k, List.getD, hi]
    rw [this]; exact k_le w hc i
  · have : w.k i = 0 := by
      unfold Aligned at ha
      simp [CWord.k, List.getD, Nat.not_lt.mp (ha ▸ hi)]
    omega

/-- The distance with the vowel, non-letter and doubled-letter discounts is never larger than the distance
    of the same two words without any discount (every character at 1.0, doubled letters at the single price). -/
theorem C16_discounted_le_plain (K : Consts) (hK : CostsOK K = true) (m m' : Mat) (hm : MInv m) (hm' : MInv m')
    (a b : CWord) (ha : Aligned a) (hb : Aligned b) (hca : CostLe a) (hcb : CostLe b) :
    (distanceM K m a b).1 ≤ (distanceM (noDouble K) m' (plainWord a) (plainWord b)).1 := by
  have hk := KOK_of_CostsOK K hK
  exact C16_discounts_lower K (noDouble K) m m' hm hm' a (plainWord a) b (plainWord b) ha hb hca hcb
    (plainWord_ok a).1 (plainWord_ok b).1 (plainWord_ok a).2 (plainWord_ok b).2 rfl rfl
    (k_le_plain a ha hca) (k_le_plain b hb hcb) (Nat.le_refl _)
    (by show K.costDouble ≤ K.costSingle; rw [hk.double, hk.single]; omega) (Nat.le_refl _)

theorem C16_discounted_le_plain_src (m m' : Mat) (hm : MInv m) (hm' : MInv m')
    (a b : CWord) (ha : Aligned a) (hb : Aligned b) (hca : CostLe a) (hcb : CostLe b) :
    (distanceM Gen.srcConsts m a b).1 ≤ (distanceM (noDouble Gen.srcConsts) m' (plainWord a) (plainWord b)).1 :=
  C16_discounted_le_plain Gen.srcConsts costsOK_src m m' hm hm' a b ha hb hca hcb

example : (distanceM Gen.srcConsts (Mat.new 22) exA exB).1 ≤
    (distanceM (noDouble Gen.srcConsts) (Mat.new 22) (plainWord exA) (plainWord exB)).1 :=
  C16_discounted_le_plain_src _ _ (MInv_new 20).1 (MInv_new 20).1 exA exB exA_ok.1 exB_ok.1 exA_ok.2.1 exB_ok.2.1

/-- The distance depends only on the two words and their per-character costs, not on the state of the
    reused matrix: any two admissible matrix states give the same result. -/
theorem C16_matrix_independent (K : Consts) (m m' : Mat) (hm : MInv m) (hm' : MInv m') (a b : CWord)
    (ha : Aligned a) (hb : Aligned b) (hca : CostLe a) (hcb : CostLe b) :
    (distanceM K m a b).1 = (distanceM K m' a b).1 := by
  rw [C16_spec K m hm a b ha hb hca hcb, C16_spec K m' hm' a b ha hb hca hcb]

/-- The one cell the loops fill is the least of insertion, deletion, substitution and the transposition branch; the
    last reads the sentinel `m[0][0]` (`size as f64`), whence `10 * m.size`. -/
theorem distance_single (K : Consts) (m : Mat) (hm : MInv m) (h3 : 3 ≤ m.size) (x y ca cb : Nat) (hxy : x ≠ y) :
    (distanceM K m ⟨[x], [ca]⟩ ⟨[y], [cb]⟩).1 =
      min4 (min cb K.costSingle + ca) (min ca K.costSingle + cb) (max ca cb) (K.costTrans + 10 * m.size) := by
  have hs := hm.sq
  have hg : m.grow 3 = m := by unfold Mat.grow; rw [if_neg (by omega)]
  have h0 : 0 < m.size := by omega
  have h1 : 1 < m.size := by omega
  have h2 : 2 < m.size := by omega
  simp [distanceM, Mat.prepare, hg, CWord.len, List.range_one, dlOuter, dlInner, CWord.c, CWord.k, lastGet, hxy,
    ((hs.set _ _ _).set _ _ _).get_set _ h2 h2, (hs.set _ _ _).get_set _ h1 h2, hs.get_set _ h2 h1, h0, h1, h2,
    hm.one, hm.row0 0 h0]

/-- The bound `CostLe` (per-character costs ≤ 1.0) is what keeps the sentinel row/column (`size as f64`) from ever
    being the minimum; it always holds for the source's `get_cost` (`cword_costLe`). Without it the result would
    depend on the matrix dimension, hence on earlier calls: -/
example : (distanceM Gen.srcConsts (Mat.new 3) ⟨[1], [1000]⟩ ⟨[2], [1000]⟩).1 ≠
    (distanceM Gen.srcConsts (Mat.new 22) ⟨[1], [1000]⟩ ⟨[2], [1000]⟩).1 := by
  rw [distance_single _ _ (MInv_new 1).1 (by rw [(MInv_new 1).2]; decide) _ _ _ _ (by decide),
    distance_single _ _ (MInv_new 20).1 (by rw [(MInv_new 20).2]; decide) _ _ _ _ (by decide),
    (MInv_new 1).2, (MInv_new 20).2]
  decide

/-- History independence: in any sequence of calls on the matrix the library creates
    (`DistMatrix::new(DEFAULT_CAPACITY + 2)`), each call returns exactly what it would return as the very
    first call on a fresh matrix — the result does not depend on what was compared before
    (including calls that grew the matrix). -/
theorem C16_history_independent (K : Consts) (calls : List (CWord × CWord)) (hc : CallsOK calls) :
    (runCalls K (Mat.new (K.matCap + 2)) calls).1 =
      calls.map (fun p => (distanceM K (Mat.new (K.matCap + 2)) p.1 p.2).1) := by
  rw [(runCalls_spec K calls hc _ (MInv_new _).1).1]
  apply List.map_congr_left
  intro p hp
  obtain ⟨ha, hb, hca, hcb⟩ := hc p hp
  exact (C16_spec K _ (MInv_new _).1 p.1 p.2 ha hb hca hcb).symm

example : CallsOK [(exA, exB), (exB, exB), (plainWord exA, exA)] := by
  intro p hp
  simp only [List.mem_cons, List.not_mem_nil, or_false] at hp
  rcases hp with rfl | rfl | rfl
  · exact ⟨exA_ok.1, exB_ok.1, exA_ok.2.1, exB_ok.2.1⟩
  · exact ⟨exB_ok.1, exB_ok.1, exB_ok.2.1, exB_ok.2.1⟩
  · exact ⟨(plainWord_ok exA).1, exA_ok.1, (plainWord_ok exA).2, exA_ok.2.1⟩

theorem pre_ok (w : CWord) (n : Nat) (ha : Aligned w) (hc : CostLe w) : Aligned (pre w n) ∧ CostLe (pre w n) := by
  unfold Aligned at ha
  refine ⟨by simp [Aligned, pre, ha], ?_⟩
  intro x hx
  exact hc x (List.mem_of_mem_take hx)

/-- Prefix cells: after a call, the matrix cell `(i+1, j+1)` (the value the word matcher reads for the prefixes
    of lengths `i` and `j`) equals the distance of those two prefixes computed on their own, on any matrix. -/
theorem C16_prefix_cells (K : Consts) (m m' : Mat) (hm : MInv m) (hm' : MInv m') (a b : CWord)
    (ha : Aligned a) (hb : Aligned b) (hca : CostLe a) (hcb : CostLe b)
    (i j : Nat) (hi : i ≤ a.len) (hj : j ≤ b.len) :
    (distanceM K m a b).2.get (i + 1) (j + 1) = (distanceM K m' (pre a i) (pre b j)).1 := by
  rw [(distance_refines K a b ha hb hca hcb m hm).2.2.1 i j hi hj,
    C16_spec K m' hm' (pre a i) (pre b j) (pre_ok a i ha hca).1 (pre_ok b j hb hcb).1
      (pre_ok a i ha hca).2 (pre_ok b j hb hcb).2,
    pre_len a i hi, pre_len b j hj]
  exact D_pre K a b i j

example : (distanceM Gen.srcConsts (Mat.new 22) exA exB).2.get 3 4 =
    (distanceM Gen.srcConsts (Mat.new 9) (pre exA 2) (pre exB 3)).1 :=
  C16_prefix_cells _ _ _ (MInv_new 20).1 (MInv_new 7).1 exA exB exA_ok.1 exB_ok.1 exA_ok.2.1 exB_ok.2.1 2 3
    (by decide) (by decide)

/-- Every call leaves the matrix in a state the next call may start from. -/
theorem C16_matrix_reusable (K : Consts) (m : Mat) (hm : MInv m) (a b : CWord)
    (ha : Aligned a) (hb : Aligned b) (hca : CostLe a) (hcb : CostLe b) :
    MInv (distanceM K m a b).2 :=
  (distance_refines K a b ha hb hca hcb m hm).2.1

end Lucid
