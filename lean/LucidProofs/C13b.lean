/-
  C13 (end to end) — "In a store holding no more records than the limit, searching for the full text of a record's
  title returns that record, and so does a query made of two complete words of the title in either order."

  Assembly of
  * word level   — `wordMatch_equal_ne_none` (`Lemmas/Gates.lean`);
  * candidates   — `candOK_of_inv`, `shares_gram_of_prefix` (`Lemmas/Candidates.lean`);
  * control flow — `found_of_first_word` (`C13.lean`).
  Everything rests on ONE query word: the first. If it is finished and spelled like some title word, the record is
  returned whatever follows it; if it is the only query word it may also be unfinished.
-/
import LucidProofs.C03

namespace Lucid

/-- **C13 (core).** Store with the trigram index of its records, no more records than the limit; `r` one of its
    records. If the first word `q0` of the query has exactly the characters of some word `w` of the title, and `q0`
    is finished or is the only query word, then `r` is among the results — whatever the other query words are.
    Texts: well-formed (`TextOK`) with stems no longer than their words (`StemsLe`); both are delivered by the
    tokenizer (C15). -/
theorem C13_first_word_equal_found (S : Sorter) (hS : SorterOK S) (K : Consts)
    (hC : CostsOK K = true) (hN : GateNumsOK K = true) (hK : 1 ≤ K.sortFactor) (hP : 1 ≤ K.prepFactor)
    (order : List ScoreType) (st : Store) (hI : StoreIndexInv st) (hlim : st.records.length ≤ st.limit)
    (ix : Nat) (r : Record) (hr : st.records[ix]? = some r) (hrt : TextOK r.title) (hrs : StemsLe r.title)
    (q : Text) (hqt : TextOK q) (hqs : StemsLe q) (q0 : WordShape) (hq0 : q.words[0]? = some q0)
    (hshape : q0.fin = true ∨ q.words = [q0])
    (w : WordShape) (hw : w ∈ r.title.words) (heq : wchars q q0 = wchars r.title w) :
    ∃ res ∈ st.search S K order q, res.id = r.id ∧ res = st.render (scoreHit K order q r) := by
  have hv : q0 ∈ q.words := List.mem_of_getElem? hq0
  have hvin := hqt.wordIn hv
  have hwin := hrt.wordIn hw
  have hc : CandOK S K st q ix r := candOK_of_inv S hS K hP st hI hlim q ix r hr
    (shares_gram_of_prefix hw hv (wchars_ne_nil hvin) (heq ▸ List.prefix_refl _))
  have hwm : wordMatch K r.title w q q0 ≠ none :=
    wordMatch_equal_ne_none K hC hN r.title w q q0 hwin hvin (hqs q0 hv) (hrs w hw) heq
  exact found_of_first_word S hS K order st q ix r hc hrt hqt q0 hq0
    (hshape.symm.imp_left fun e => by rw [e]; rfl) ⟨w, hw, Or.inl hwm⟩

/-- **C13 (the title typed in full).** The query has the same words as the title, character for character and in
    the same order; all query words except possibly the last are finished (what `tokenize_query` produces). Then
    the record is among the results. -/
theorem C13_whole_title_found (S : Sorter) (hS : SorterOK S) (K : Consts)
    (hC : CostsOK K = true) (hN : GateNumsOK K = true) (hK : 1 ≤ K.sortFactor) (hP : 1 ≤ K.prepFactor)
    (order : List ScoreType) (st : Store) (hI : StoreIndexInv st) (hlim : st.records.length ≤ st.limit)
    (ix : Nat) (r : Record) (hr : st.records[ix]? = some r) (hrt : TextOK r.title) (hrs : StemsLe r.title)
    (hne : r.title.words ≠ [])
    (q : Text) (hqt : TextOK q) (hqs : StemsLe q)
    (hinit : ∀ i w, q.words[i]? = some w → i + 1 < q.words.length → w.fin = true)
    (hsame : q.words.map (wchars q) = r.title.words.map (wchars r.title)) :
    ∃ res ∈ st.search S K order q, res.id = r.id ∧ res = st.render (scoreHit K order q r) := by
  obtain ⟨w, ws, hws⟩ := List.exists_cons_of_ne_nil hne
  cases hqw : q.words with
  | nil => rw [hws, hqw] at hsame; cases hsame
  | cons q0 qs =>
    rw [hws, hqw, List.map_cons, List.map_cons] at hsame
    refine C13_first_word_equal_found S hS K hC hN hK hP order st hI hlim ix r hr hrt hrs q hqt hqs q0
      (by rw [hqw]; rfl) ?_ w (hws ▸ List.mem_cons_self) (List.cons.inj hsame).1
    cases qs with
    | nil => exact .inr hqw
    | cons q1 qs' => exact .inl (hinit 0 q0 (by rw [hqw]; rfl) (by rw [hqw]; simp))

/-- **C13 (two complete title words).** The query consists of two words; the first is finished and has the
    characters of some title word. Then the record is among the results. Nothing at all is required of the second
    query word, so in particular it may be any other title word, before or after the first one in the title. -/
theorem C13_two_words_found (S : Sorter) (hS : SorterOK S) (K : Consts)
    (hC : CostsOK K = true) (hN : GateNumsOK K = true) (hK : 1 ≤ K.sortFactor) (hP : 1 ≤ K.prepFactor)
    (order : List ScoreType) (st : Store) (hI : StoreIndexInv st) (hlim : st.records.length ≤ st.limit)
    (ix : Nat) (r : Record) (hr : st.records[ix]? = some r) (hrt : TextOK r.title) (hrs : StemsLe r.title)
    (q : Text) (hqt : TextOK q) (hqs : StemsLe q) (q0 q1 : WordShape) (hq : q.words = [q0, q1])
    (hfin : q0.fin = true)
    (w0 : WordShape) (hw0 : w0 ∈ r.title.words) (heq0 : wchars q q0 = wchars r.title w0) :
    ∃ res ∈ st.search S K order q, res.id = r.id ∧ res = st.render (scoreHit K order q r) :=
  C13_first_word_equal_found S hS K hC hN hK hP order st hI hlim ix r hr hrt hrs q hqt hqs q0
    (by rw [hq]; rfl) (Or.inl hfin) w0 hw0 heq0

/-- **C13 (two title words in either order).** For two words `wa`, `wb` of the title, the two-word query spelling
    `wa wb` and the two-word query spelling `wb wa` (first word finished) both return the record. -/
theorem C13_two_words_either_order (S : Sorter) (hS : SorterOK S) (K : Consts)
    (hC : CostsOK K = true) (hN : GateNumsOK K = true) (hK : 1 ≤ K.sortFactor) (hP : 1 ≤ K.prepFactor)
    (order : List ScoreType) (st : Store) (hI : StoreIndexInv st) (hlim : st.records.length ≤ st.limit)
    (ix : Nat) (r : Record) (hr : st.records[ix]? = some r) (hrt : TextOK r.title) (hrs : StemsLe r.title)
    (wa wb : WordShape) (hwa : wa ∈ r.title.words) (hwb : wb ∈ r.title.words)
    (q : Text) (hqt : TextOK q) (hqs : StemsLe q) (q0 q1 : WordShape) (hq : q.words = [q0, q1])
    (hfin : q0.fin = true)
    (hspell : (wchars q q0 = wchars r.title wa ∧ wchars q q1 = wchars r.title wb) ∨
              (wchars q q0 = wchars r.title wb ∧ wchars q q1 = wchars r.title wa)) :
    ∃ res ∈ st.search S K order q, res.id = r.id ∧ res = st.render (scoreHit K order q r) := by
  rcases hspell with h | h
  · exact C13_two_words_found S hS K hC hN hK hP order st hI hlim ix r hr hrt hrs q hqt hqs q0 q1 hq hfin wa hwa h.1
  · exact C13_two_words_found S hS K hC hN hK hP order st hI hlim ix r hr hrt hrs q hqt hqs q0 q1 hq hfin wb hwb h.1

/-- **C13 on tokenised texts (title typed in full).** The store is reached from `Store::new` by any operations, the
    added titles being results of `tokenize_record`; the query is `tokenize_query` of the typed text `s`. Premise
    about `s`: its tokenisation has the same words, character for character, as the (non-empty) tokenised title. -/
theorem C13_whole_title_found_tokenized (S : Sorter) (hS : SorterOK S) (E : Env)
    (hU : UnicodeFacts E.U E.K) (hT : TablesOK E.T = true) (hSt : StemHyp E)
    (hC : CostsOK E.K = true) (hN : GateNumsOK E.K = true) (hK : 1 ≤ E.K.sortFactor) (hP : 1 ≤ E.K.prepFactor)
    (order : List ScoreType) (ops : List StoreOp)
    (hops : ∀ id t rating, StoreOp.add id t rating ∈ ops → ∃ s, t = tokenizeRecord Gen.srcProg E s)
    (hlim : ((Store.new E.K).run S E.K order ops).records.length ≤ ((Store.new E.K).run S E.K order ops).limit)
    (ix : Nat) (r : Record) (hr : ((Store.new E.K).run S E.K order ops).records[ix]? = some r)
    (hne : r.title.words ≠ [])
    (s : List Nat)
    (hsame : (tokenizeQuery Gen.srcProg E s).words.map (wchars (tokenizeQuery Gen.srcProg E s))
               = r.title.words.map (wchars r.title)) :
    ∃ res ∈ ((Store.new E.K).run S E.K order ops).search S E.K order (tokenizeQuery Gen.srcProg E s),
      res.id = r.id ∧
      res = ((Store.new E.K).run S E.K order ops).render (scoreHit E.K order (tokenizeQuery Gen.srcProg E s) r) := by
  have hqi := tokInv_tokenizeQuery E hU hT hSt s
  obtain ⟨s', hri⟩ := reachable_title_tokInv hU hT hSt S E.K order hops hr
  exact C13_whole_title_found S hS E.K hC hN hK hP order _ (StoreIndexInv_reachable S E.K order ops) hlim ix r hr
    hri.textOK hri.stemsLe hne _ hqi.textOK hqi.stemsLe (hqi.fin_query_init rfl) hsame

/-- **C13 on tokenised texts (two complete title words, either order).** Premise about the typed text `s`: its
    tokenisation has two words, spelled like two words `wa`, `wb` of the tokenised title, in this or the opposite
    order. (The first word of a two-word tokenised query is always finished.) -/
theorem C13_two_words_found_tokenized (S : Sorter) (hS : SorterOK S) (E : Env)
    (hU : UnicodeFacts E.U E.K) (hT : TablesOK E.T = true) (hSt : StemHyp E)
    (hC : CostsOK E.K = true) (hN : GateNumsOK E.K = true) (hK : 1 ≤ E.K.sortFactor) (hP : 1 ≤ E.K.prepFactor)
    (order : List ScoreType) (ops : List StoreOp)
    (hops : ∀ id t rating, StoreOp.add id t rating ∈ ops → ∃ s, t = tokenizeRecord Gen.srcProg E s)
    (hlim : ((Store.new E.K).run S E.K order ops).records.length ≤ ((Store.new E.K).run S E.K order ops).limit)
    (ix : Nat) (r : Record) (hr : ((Store.new E.K).run S E.K order ops).records[ix]? = some r)
    (wa wb : WordShape) (hwa : wa ∈ r.title.words) (hwb : wb ∈ r.title.words)
    (s : List Nat) (q0 q1 : WordShape) (hq : (tokenizeQuery Gen.srcProg E s).words = [q0, q1])
    (hspell : (wchars (tokenizeQuery Gen.srcProg E s) q0 = wchars r.title wa ∧
               wchars (tokenizeQuery Gen.srcProg E s) q1 = wchars r.title wb) ∨
              (wchars (tokenizeQuery Gen.srcProg E s) q0 = wchars r.title wb ∧
               wchars (tokenizeQuery Gen.srcProg E s) q1 = wchars r.title wa)) :
    ∃ res ∈ ((Store.new E.K).run S E.K order ops).search S E.K order (tokenizeQuery Gen.srcProg E s),
      res.id = r.id ∧
      res = ((Store.new E.K).run S E.K order ops).render (scoreHit E.K order (tokenizeQuery Gen.srcProg E s) r) := by
  have hqi := tokInv_tokenizeQuery E hU hT hSt s
  obtain ⟨s', hri⟩ := reachable_title_tokInv hU hT hSt S E.K order hops hr
  have hfin : q0.fin = true := hqi.fin_query_init rfl 0 q0 (by rw [hq]; rfl) (by rw [hq]; simp)
  exact C13_two_words_either_order S hS E.K hC hN hK hP order _ (StoreIndexInv_reachable S E.K order ops) hlim ix r hr
    hri.textOK hri.stemsLe wa wb hwa hwb _ hqi.textOK hqi.stemsLe q0 q1 hq hfin hspell

theorem C13_first_word_equal_found_src (S : Sorter) (hS : SorterOK S)
    (st : Store) (hI : StoreIndexInv st) (hlim : st.records.length ≤ st.limit)
    (ix : Nat) (r : Record) (hr : st.records[ix]? = some r) (hrt : TextOK r.title) (hrs : StemsLe r.title)
    (q : Text) (hqt : TextOK q) (hqs : StemsLe q) (q0 : WordShape) (hq0 : q.words[0]? = some q0)
    (hshape : q0.fin = true ∨ q.words = [q0])
    (w : WordShape) (hw : w ∈ r.title.words) (heq : wchars q q0 = wchars r.title w) :
    ∃ res ∈ st.search S Gen.srcConsts Gen.srcScoreOrder q,
      res.id = r.id ∧ res = st.render (scoreHit Gen.srcConsts Gen.srcScoreOrder q r) :=
  C13_first_word_equal_found S hS Gen.srcConsts costsOK_src gateNumsOK_src (by decide) (by decide)
    Gen.srcScoreOrder st hI hlim ix r hr hrt hrs q hqt hqs q0 hq0 hshape w hw heq

theorem C13_whole_title_found_src (S : Sorter) (hS : SorterOK S)
    (st : Store) (hI : StoreIndexInv st) (hlim : st.records.length ≤ st.limit)
    (ix : Nat) (r : Record) (hr : st.records[ix]? = some r) (hrt : TextOK r.title) (hrs : StemsLe r.title)
    (hne : r.title.words ≠ [])
    (q : Text) (hqt : TextOK q) (hqs : StemsLe q)
    (hinit : ∀ i w, q.words[i]? = some w → i + 1 < q.words.length → w.fin = true)
    (hsame : q.words.map (wchars q) = r.title.words.map (wchars r.title)) :
    ∃ res ∈ st.search S Gen.srcConsts Gen.srcScoreOrder q,
      res.id = r.id ∧ res = st.render (scoreHit Gen.srcConsts Gen.srcScoreOrder q r) :=
  C13_whole_title_found S hS Gen.srcConsts costsOK_src gateNumsOK_src (by decide) (by decide)
    Gen.srcScoreOrder st hI hlim ix r hr hrt hrs hne q hqt hqs hinit hsame

theorem C13_two_words_found_src (S : Sorter) (hS : SorterOK S)
    (st : Store) (hI : StoreIndexInv st) (hlim : st.records.length ≤ st.limit)
    (ix : Nat) (r : Record) (hr : st.records[ix]? = some r) (hrt : TextOK r.title) (hrs : StemsLe r.title)
    (q : Text) (hqt : TextOK q) (hqs : StemsLe q) (q0 q1 : WordShape) (hq : q.words = [q0, q1])
    (hfin : q0.fin = true)
    (w0 : WordShape) (hw0 : w0 ∈ r.title.words) (heq0 : wchars q q0 = wchars r.title w0) :
    ∃ res ∈ st.search S Gen.srcConsts Gen.srcScoreOrder q,
      res.id = r.id ∧ res = st.render (scoreHit Gen.srcConsts Gen.srcScoreOrder q r) :=
  C13_two_words_found S hS Gen.srcConsts costsOK_src gateNumsOK_src (by decide) (by decide)
    Gen.srcScoreOrder st hI hlim ix r hr hrt hrs q hqt hqs q0 q1 hq hfin w0 hw0 heq0

theorem C13_two_words_either_order_src (S : Sorter) (hS : SorterOK S)
    (st : Store) (hI : StoreIndexInv st) (hlim : st.records.length ≤ st.limit)
    (ix : Nat) (r : Record) (hr : st.records[ix]? = some r) (hrt : TextOK r.title) (hrs : StemsLe r.title)
    (wa wb : WordShape) (hwa : wa ∈ r.title.words) (hwb : wb ∈ r.title.words)
    (q : Text) (hqt : TextOK q) (hqs : StemsLe q) (q0 q1 : WordShape) (hq : q.words = [q0, q1])
    (hfin : q0.fin = true)
    (hspell : (wchars q q0 = wchars r.title wa ∧ wchars q q1 = wchars r.title wb) ∨
              (wchars q q0 = wchars r.title wb ∧ wchars q q1 = wchars r.title wa)) :
    ∃ res ∈ st.search S Gen.srcConsts Gen.srcScoreOrder q,
      res.id = r.id ∧ res = st.render (scoreHit Gen.srcConsts Gen.srcScoreOrder q r) :=
  C13_two_words_either_order S hS Gen.srcConsts costsOK_src gateNumsOK_src (by decide) (by decide)
    Gen.srcScoreOrder st hI hlim ix r hr hrt hrs wa wb hwa hwb q hqt hqs q0 q1 hq hfin hspell

/-- C13 (title typed in full) at the generated constants, step lists and score order, in every language -/
theorem C13_whole_title_found_tokenized_src (S : Sorter) (hS : SorterOK S)
    (U : Unicode) (T : LangTables) (stem : List Nat → Nat)
    (hU : UnicodeFacts U Gen.srcConsts) (hT : TablesOK T = true) (hSt : StemHyp (Gen.srcProg.env U T stem))
    (ops : List StoreOp)
    (hops : ∀ id t rating, StoreOp.add id t rating ∈ ops →
      ∃ s, t = tokenizeRecord Gen.srcProg (Gen.srcProg.env U T stem) s)
    (hlim : ((Store.new Gen.srcConsts).run S Gen.srcConsts Gen.srcScoreOrder ops).records.length
              ≤ ((Store.new Gen.srcConsts).run S Gen.srcConsts Gen.srcScoreOrder ops).limit)
    (ix : Nat) (r : Record)
    (hr : ((Store.new Gen.srcConsts).run S Gen.srcConsts Gen.srcScoreOrder ops).records[ix]? = some r)
    (hne : r.title.words ≠ [])
    (s : List Nat)
    (hsame : (tokenizeQuery Gen.srcProg (Gen.srcProg.env U T stem) s).words.map
                (wchars (tokenizeQuery Gen.srcProg (Gen.srcProg.env U T stem) s))
               = r.title.words.map (wchars r.title)) :
    ∃ res ∈ ((Store.new Gen.srcConsts).run S Gen.srcConsts Gen.srcScoreOrder ops).search S Gen.srcConsts
        Gen.srcScoreOrder (tokenizeQuery Gen.srcProg (Gen.srcProg.env U T stem) s),
      res.id = r.id ∧
      res = ((Store.new Gen.srcConsts).run S Gen.srcConsts Gen.srcScoreOrder ops).render
              (scoreHit Gen.srcConsts Gen.srcScoreOrder (tokenizeQuery Gen.srcProg (Gen.srcProg.env U T stem) s) r) :=
  C13_whole_title_found_tokenized S hS (Gen.srcProg.env U T stem) hU hT hSt costsOK_src gateNumsOK_src
    (show 1 ≤ Gen.srcConsts.sortFactor by decide) (show 1 ≤ Gen.srcConsts.prepFactor by decide) Gen.srcScoreOrder
    ops hops hlim ix r hr hne s hsame

/-- C13 (two complete title words, either order) at the generated constants, in every language -/
theorem C13_two_words_found_tokenized_src (S : Sorter) (hS : SorterOK S)
    (U : Unicode) (T : LangTables) (stem : List Nat → Nat)
    (hU : UnicodeFacts U Gen.srcConsts) (hT : TablesOK T = true) (hSt : StemHyp (Gen.srcProg.env U T stem))
    (ops : List StoreOp)
    (hops : ∀ id t rating, StoreOp.add id t rating ∈ ops →
      ∃ s, t = tokenizeRecord Gen.srcProg (Gen.srcProg.env U T stem) s)
    (hlim : ((Store.new Gen.srcConsts).run S Gen.srcConsts Gen.srcScoreOrder ops).records.length
              ≤ ((Store.new Gen.srcConsts).run S Gen.srcConsts Gen.srcScoreOrder ops).limit)
    (ix : Nat) (r : Record)
    (hr : ((Store.new Gen.srcConsts).run S Gen.srcConsts Gen.srcScoreOrder ops).records[ix]? = some r)
    (wa wb : WordShape) (hwa : wa ∈ r.title.words) (hwb : wb ∈ r.title.words)
    (s : List Nat) (q0 q1 : WordShape)
    (hq : (tokenizeQuery Gen.srcProg (Gen.srcProg.env U T stem) s).words = [q0, q1])
    (hspell : (wchars (tokenizeQuery Gen.srcProg (Gen.srcProg.env U T stem) s) q0 = wchars r.title wa ∧
               wchars (tokenizeQuery Gen.srcProg (Gen.srcProg.env U T stem) s) q1 = wchars r.title wb) ∨
              (wchars (tokenizeQuery Gen.srcProg (Gen.srcProg.env U T stem) s) q0 = wchars r.title wb ∧
               wchars (tokenizeQuery Gen.srcProg (Gen.srcProg.env U T stem) s) q1 = wchars r.title wa)) :
    ∃ res ∈ ((Store.new Gen.srcConsts).run S Gen.srcConsts Gen.srcScoreOrder ops).search S Gen.srcConsts
        Gen.srcScoreOrder (tokenizeQuery Gen.srcProg (Gen.srcProg.env U T stem) s),
      res.id = r.id ∧
      res = ((Store.new Gen.srcConsts).run S Gen.srcConsts Gen.srcScoreOrder ops).render
              (scoreHit Gen.srcConsts Gen.srcScoreOrder (tokenizeQuery Gen.srcProg (Gen.srcProg.env U T stem) s) r) :=
  C13_two_words_found_tokenized S hS (Gen.srcProg.env U T stem) hU hT hSt costsOK_src gateNumsOK_src
    (show 1 ≤ Gen.srcConsts.sortFactor by decide) (show 1 ≤ Gen.srcConsts.prepFactor by decide) Gen.srcScoreOrder
    ops hops hlim ix r hr wa wb hwa hwb s q0 q1 hq hspell

namespace C13bExample
open C13Example C03Example

/-- query "abc def" (last word unfinished): the whole title of `exRecord` -/
def exQueryW : Text :=
  { words := [wd 0 0 3 true, wd 1 4 7 false], source := [97,98,99,32,100,101,102],
    chars := [97,98,99,32,100,101,102], classes := List.replicate 7 CharClass.any }
/-- query "def abc" (last word unfinished): the two title words in the opposite order -/
def exQueryR : Text :=
  { words := [wd 0 0 3 true, wd 1 4 7 false], source := [100,101,102,32,97,98,99],
    chars := [100,101,102,32,97,98,99], classes := List.replicate 7 CharClass.any }

theorem exQueryW_ok : TextOK exQueryW := by decide
theorem exQueryR_ok : TextOK exQueryR := by decide

theorem exTitle_stems : StemsLe exTitle := by unfold StemsLe; decide
theorem exQueryW_stems : StemsLe exQueryW := by unfold StemsLe; decide
theorem exQueryR_stems : StemsLe exQueryR := by unfold StemsLe; decide

/-- the hypotheses of `C13_whole_title_found_src` are met by "abc def" against the title "abc def" -/
example : ∃ res ∈ exStore.search exSorter Gen.srcConsts Gen.srcScoreOrder exQueryW, res.id = 42 ∧
    res = exStore.render (scoreHit Gen.srcConsts Gen.srcScoreOrder exQueryW exRecord) :=
  C13_whole_title_found_src exSorter exSorter_ok exStore exStore_inv (by decide) 0 exRecord (by decide) exTitle_ok
    exTitle_stems (by decide) exQueryW exQueryW_ok exQueryW_stems
    (by
      intro i w hw hi
      have hi0 : i = 0 := (by have : exQueryW.words.length = 2 := rfl; omega)
      subst hi0
      simp only [exQueryW, wd, List.getElem?_cons_zero, Option.some.injEq] at hw
      rw [← hw])
    (by decide)

/-- the hypotheses of `C13_two_words_either_order_src` are met by "def abc" against the title "abc def" -/
example : ∃ res ∈ exStore.search exSorter Gen.srcConsts Gen.srcScoreOrder exQueryR, res.id = 42 ∧
    res = exStore.render (scoreHit Gen.srcConsts Gen.srcScoreOrder exQueryR exRecord) :=
  C13_two_words_either_order_src exSorter exSorter_ok exStore exStore_inv (by decide) 0 exRecord (by decide) exTitle_ok
    exTitle_stems (wd 0 0 3 true) (wd 1 4 7 true) (by decide) (by decide) exQueryR exQueryR_ok exQueryR_stems
    (wd 0 0 3 true) (wd 1 4 7 false) rfl rfl (Or.inr (by decide))

/-- the record held by the store reached by `exOps` (title "Abc def" tokenised with the toy English environment) -/
def exRec : Record :=
  { ix := 0, id := 42, title := tokenizeRecord Gen.srcProg exEnv [65, 98, 99, 32, 100, 101, 102], rating := 7 }

theorem exOps_tokenized :
    ∀ id t rating, StoreOp.add id t rating ∈ exOps → ∃ s, t = tokenizeRecord Gen.srcProg exEnv s := exOps_ok

/-- the hypotheses of `C13_whole_title_found_tokenized_src` are met by typing "ABC, def" against "Abc def" -/
example : ∃ res ∈ ((Store.new Gen.srcConsts).run exSorter Gen.srcConsts Gen.srcScoreOrder exOps).search exSorter
    Gen.srcConsts Gen.srcScoreOrder (tokenizeQuery Gen.srcProg exEnv [65, 66, 67, 44, 32, 100, 101, 102]),
    res.id = 42 := by
  obtain ⟨res, h1, h2, _⟩ := C13_whole_title_found_tokenized_src exSorter exSorter_ok toyU Gen.lang_en toyStem
    toyU_facts tablesOK_en (toyStemHyp _ (by decide)) exOps exOps_tokenized (by decide : (1 : Nat) ≤ 5) 0 exRec
    rfl (by rw [exRec, exTitle_tok]; decide) [65, 66, 67, 44, 32, 100, 101, 102] (by decide +kernel)
  exact ⟨res, h1, h2⟩

/-- the hypotheses of `C13_two_words_found_tokenized_src` are met by typing "def abc" against "Abc def" -/
example : ∃ res ∈ ((Store.new Gen.srcConsts).run exSorter Gen.srcConsts Gen.srcScoreOrder exOps).search exSorter
    Gen.srcConsts Gen.srcScoreOrder (tokenizeQuery Gen.srcProg exEnv [100, 101, 102, 32, 97, 98, 99]),
    res.id = 42 := by
  obtain ⟨res, h1, h2, _⟩ := C13_two_words_found_tokenized_src exSorter exSorter_ok toyU Gen.lang_en toyStem
    toyU_facts tablesOK_en (toyStemHyp _ (by decide)) exOps exOps_tokenized (by decide : (1 : Nat) ≤ 5) 0 exRec
    rfl
    { offset := 0, lo := 0, hi := 3, stem := 2, pos := none, fin := true }
    { offset := 1, lo := 4, hi := 7, stem := 2, pos := none, fin := true }
    (by rw [exRec, exTitle_tok]; decide) (by rw [exRec, exTitle_tok]; decide)
    [100, 101, 102, 32, 97, 98, 99]
    { offset := 0, lo := 0, hi := 3, stem := 2, pos := none, fin := true }
    { offset := 1, lo := 4, hi := 7, stem := 2, pos := none, fin := false } (by decide +kernel)
    (Or.inr (by decide +kernel))
  exact ⟨res, h1, h2⟩

end C13bExample

end Lucid
