/-
  C11d — the decomposition clauses of C11 against UNICODE's canonical decomposition.

  "… writing [the query's] accented letters in decomposed instead of precomposed form … never changes the hit list
  or the highlighted titles.  Storing a title in decomposed form gives the same hits and the same returned titles
  as storing it precomposed."  (letters restricted, per language, to that language's own accent inventory)

  C11b/C11c prove these clauses with "decomposed form" read off the language's own compose table
  (`decompAt T.compose s mask`: the key of the first table entry producing the letter).  A table that composed
  `I` + U+0308 to `Î` instead of `Ï` would satisfy those theorems, because its inverse changes with it.  Here
  "decomposed form" is fixed by an independent reference, `Lucid.Gen.canonPairs` (generated from Python's
  `unicodedata`, not from the repository):

      uniDecompAt T s mask  =  `s` with every letter at a position selected by `mask` that belongs to the
                               accent inventory of `T` (`inInventory`: produced by a compose entry or folded by
                               a reduce entry) replaced by Unicode's canonical decomposition `[base, mark]`
                               (`canonDecomp`); all other characters left alone.

  WHAT THE TABLES MUST SATISFY in addition to `ComposeClosed` (both decidable, kernel-checked for all seven
  generated languages in `Lemmas/Canon.lean`, so the `_src`/`_std` forms carry no table hypothesis):
    * `ComposeCanonical`  : every compose entry is `([base, mark], [composed])` with `(composed, base, mark)` in
                            the reference table — the seeded table `I`+U+0308 ↦ `Î` FAILS this
                            (`C11_noncanonical_table_rejected` below);
    * `InventoryComposed` : every single-letter reduce key with a canonical decomposition is produced by some
                            compose entry — a table that forgot to compose a letter it folds FAILS this.
  Under them `decompAt T.compose = uniDecompAt T` (`decompAt_eq_uni`), and every theorem below is the
  corresponding C11b/C11c theorem rewritten with that equation.
-/
import LucidProofs.Lemmas.Canon
import LucidProofs.C11c

namespace Lucid
open Gen

/-! ### the inventory, explicitly -/

/-- For every generated language: if `c` is a letter of the language's accent inventory and Unicode decomposes
    it canonically into `base`, `mark`, then the language's `compose` maps the two-scalar string `base mark`
    back to exactly the one letter `c`. No side condition. -/
theorem C11_unicode_decomposition_of_inventory_letter {name : String} {T : LangTables}
    (hT : (name, T) ∈ srcLangs) {c a k : Nat} (hin : inInventory T c = true)
    (hd : canonDecomp c = some (a, k)) : compose T [a, k] = [c] :=
  composeWith_canon_pair (variantTablesOK_of_src hT).1 (composeCanonical_src name T hT)
    (inventoryComposed_src name T hT) hin hd

/-- the same for arbitrary tables under the three named table conditions -/
theorem C11_unicode_decomposition_of_inventory_letter_gen (T : LangTables)
    (hC : ComposeClosed T.compose = true) (hCC : ComposeCanonical T.compose = true)
    (hIC : InventoryComposed T = true) {c a k : Nat} (hin : inInventory T c = true)
    (hd : canonDecomp c = some (a, k)) : compose T [a, k] = [c] :=
  composeWith_canon_pair hC hCC hIC hin hd

/-- What `uniDecompAt` does at one selected position, spelled out: an inventory letter `c` with canonical
    decomposition `(a, k)` becomes `a k`; a character outside the inventory, or without a canonical
    decomposition, stays. -/
theorem C11_uniDecompChar_spec (T : LangTables) (c : Nat) :
    (∀ a k, inInventory T c = true → canonDecomp c = some (a, k) → uniDecompChar T c = [a, k]) ∧
    (inInventory T c = false → uniDecompChar T c = [c]) ∧
    (canonDecomp c = none → uniDecompChar T c = [c]) := by
  refine ⟨fun a k h1 h2 => ?_, fun h => ?_, fun h => ?_⟩
  · simp only [uniDecompChar, h1, h2, if_true]
  · simp only [uniDecompChar, h, Bool.false_eq_true, if_false]
  · unfold uniDecompChar; rw [h]; split <;> rfl

/-- the seeded change (French `I` + U+0308 composed to `Î` U+00CE instead of `Ï` U+00CF) is rejected by
    `ComposeCanonical`, as is a key that is not a canonical pair at all -/
theorem C11_noncanonical_table_rejected :
    ComposeCanonical [([73, 776], [206])] = false ∧ ComposeCanonical [([73, 776], [207])] = true ∧
    ComposeCanonical [([115, 115], [223])] = false := by
  decide +kernel

/-- a table that folds `ï` but does not compose it is rejected by `InventoryComposed` -/
example : InventoryComposed { lang_none with reduce := [([239], [105])] } = false := by decide +kernel

/-! ### decomposed titles -/

/-- Storing a title with any subset of its accented inventory letters written in Unicode's canonical
    decomposition (base letter followed by the combining mark) produces exactly the same record text — words,
    characters, classes and the `source` that is highlighted and returned — as storing it precomposed.
    Hypotheses: the compose table is `ComposeClosed`, composes canonical pairs only (`ComposeCanonical`) and
    covers the decomposable letters the language folds (`InventoryComposed`); the precomposed title has no
    free-standing combining marks. -/
theorem C11_title_unicode_decomposed (E : Env) (hC : ComposeClosed E.T.compose = true)
    (hCC : ComposeCanonical E.T.compose = true) (hIC : InventoryComposed E.T = true) (s : List Nat)
    (hs : MarkFree E.T.compose s) (mask : List Bool) :
    tokenizeRecord srcProg E (uniDecompAt E.T s mask) = tokenizeRecord srcProg E s := by
  rw [← decompAt_eq_uni E.T hCC hIC]
  exact C11_title_decomposed E hC s hs mask

/-- The same for every language of the generated registry list: no hypothesis on the tables is left (any
    character oracle, any stemmer). -/
theorem C11_title_unicode_decomposed_src (E : Env) {name : String} (hT : (name, E.T) ∈ srcLangs) (s : List Nat)
    (hs : MarkFree E.T.compose s) (mask : List Bool) :
    tokenizeRecord srcProg E (uniDecompAt E.T s mask) = tokenizeRecord srcProg E s :=
  C11_title_unicode_decomposed E (variantTablesOK_of_src hT).1 (composeCanonical_src name E.T hT)
    (inventoryComposed_src name E.T hT) s hs mask

/-- Hence the store after `add` is the same store, and every later search returns the same ids and the same
    highlighted titles (any sorter, constants, score order, query). -/
theorem C11_title_unicode_decomposed_store (E : Env) (hC : ComposeClosed E.T.compose = true)
    (hCC : ComposeCanonical E.T.compose = true) (hIC : InventoryComposed E.T = true) (s : List Nat)
    (hs : MarkFree E.T.compose s) (mask : List Bool) (st : Store) (id rating : Nat) :
    st.add id (tokenizeRecord srcProg E (uniDecompAt E.T s mask)) rating =
      st.add id (tokenizeRecord srcProg E s) rating ∧
    ∀ (S : Sorter) (K : Consts) (order : List ScoreType) (q : Text),
      (st.add id (tokenizeRecord srcProg E (uniDecompAt E.T s mask)) rating).searchM S K order q =
        (st.add id (tokenizeRecord srcProg E s) rating).searchM S K order q := by
  rw [C11_title_unicode_decomposed E hC hCC hIC s hs mask]
  exact ⟨rfl, fun _ _ _ _ => rfl⟩

/-- the store statement for every generated language, no table hypothesis -/
theorem C11_title_unicode_decomposed_store_src (E : Env) {name : String} (hT : (name, E.T) ∈ srcLangs)
    (s : List Nat) (hs : MarkFree E.T.compose s) (mask : List Bool) (st : Store) (id rating : Nat) :
    st.add id (tokenizeRecord srcProg E (uniDecompAt E.T s mask)) rating =
      st.add id (tokenizeRecord srcProg E s) rating ∧
    ∀ (S : Sorter) (K : Consts) (order : List ScoreType) (q : Text),
      (st.add id (tokenizeRecord srcProg E (uniDecompAt E.T s mask)) rating).searchM S K order q =
        (st.add id (tokenizeRecord srcProg E s) rating).searchM S K order q :=
  C11_title_unicode_decomposed_store E (variantTablesOK_of_src hT).1 (composeCanonical_src name E.T hT)
    (inventoryComposed_src name E.T hT) s hs mask st id rating

/-- Library level: `add_record` with the canonically decomposed title leaves the registry (all stores, all
    pending results) in exactly the state `add_record` with the precomposed title leaves it in. `T` are the
    tables of the language the store `id` was created with; if there is no such store both calls are the same
    no-op. -/
theorem C11_title_unicode_decomposed_registry (S : Sorter) (envs : Nat → Env) (g : Registry)
    (id recId rating : Nat) (s : List Nat) (mask : List Bool) (T : LangTables)
    (h : ∀ lang st, amGet g.stores id = some (lang, st) →
      (envs lang).T = T ∧ ComposeClosed T.compose = true ∧ ComposeCanonical T.compose = true ∧
        InventoryComposed T = true ∧ MarkFree T.compose s) :
    Registry.step S srcProg envs g (.addRecord id recId (uniDecompAt T s mask) rating) =
      Registry.step S srcProg envs g (.addRecord id recId s rating) := by
  apply step_addRecord_congr
  intro lang st hg
  obtain ⟨hm, hC, hCC, hIC, hs⟩ := h lang st hg
  subst hm
  exact C11_title_unicode_decomposed (envs lang) hC hCC hIC s hs mask

/-- library level, every generated language: the only hypotheses left are that the store uses the tables `T`
    of a generated language and that the precomposed title has no free-standing combining marks -/
theorem C11_title_unicode_decomposed_registry_src (S : Sorter) (envs : Nat → Env) (g : Registry)
    (id recId rating : Nat) (s : List Nat) (mask : List Bool) {name : String} {T : LangTables}
    (hT : (name, T) ∈ srcLangs) (hs : MarkFree T.compose s)
    (h : ∀ lang st, amGet g.stores id = some (lang, st) → (envs lang).T = T) :
    Registry.step S srcProg envs g (.addRecord id recId (uniDecompAt T s mask) rating) =
      Registry.step S srcProg envs g (.addRecord id recId s rating) :=
  C11_title_unicode_decomposed_registry S envs g id recId rating s mask T
    (fun lang st hg => ⟨h lang st hg, (variantTablesOK_of_src hT).1, composeCanonical_src name T hT,
      inventoryComposed_src name T hT, hs⟩)

/-- real Unicode tables of Rust's `std`, each generated language, any stemmer -/
theorem C11_title_unicode_decomposed_std {name : String} {T : LangTables} (hT : (name, T) ∈ srcLangs)
    (stem : List Nat → Nat) (s : List Nat) (hs : MarkFree T.compose s) (mask : List Bool) :
    tokenizeRecord srcProg (stdEnv T stem) (uniDecompAt T s mask) = tokenizeRecord srcProg (stdEnv T stem) s :=
  C11_title_unicode_decomposed_src (stdEnv T stem) (name := name) hT s hs mask

/-! ### decomposed query -/

/-- Writing any subset of the accented inventory letters of a query in Unicode's canonical decomposition gives
    exactly the same tokenised query (so `source` too). Hypotheses: `ComposeClosed`, `ComposeCanonical`,
    `InventoryComposed` tables; precomposed query without free-standing combining marks. -/
theorem C11_unicode_decompose_variant (E : Env) (hC : ComposeClosed E.T.compose = true)
    (hCC : ComposeCanonical E.T.compose = true) (hIC : InventoryComposed E.T = true) (s : List Nat)
    (hs : MarkFree E.T.compose s) (mask : List Bool) :
    tokenizeQuery srcProg E (uniDecompAt E.T s mask) = tokenizeQuery srcProg E s := by
  rw [← decompAt_eq_uni E.T hCC hIC]
  exact C11_decompose_variant E hC s hs mask

/-- every language of the generated registry list: no table hypothesis left -/
theorem C11_unicode_decompose_variant_src (E : Env) {name : String} (hT : (name, E.T) ∈ srcLangs) (s : List Nat)
    (hs : MarkFree E.T.compose s) (mask : List Bool) :
    tokenizeQuery srcProg E (uniDecompAt E.T s mask) = tokenizeQuery srcProg E s :=
  C11_unicode_decompose_variant E (variantTablesOK_of_src hT).1 (composeCanonical_src name E.T hT)
    (inventoryComposed_src name E.T hT) s hs mask

/-- Hence the same hit list, the same highlighted titles and the same store after the call — for every sorting
    oracle (the tokenised queries are equal, no naturality needed). -/
theorem C11_unicode_decompose_search (S : Sorter) (E : Env) (K : Consts) (order : List ScoreType) (st : Store)
    (hC : ComposeClosed E.T.compose = true) (hCC : ComposeCanonical E.T.compose = true)
    (hIC : InventoryComposed E.T = true) (s : List Nat) (hs : MarkFree E.T.compose s) (mask : List Bool) :
    st.searchM S K order (tokenizeQuery srcProg E (uniDecompAt E.T s mask)) =
      st.searchM S K order (tokenizeQuery srcProg E s) := by
  rw [C11_unicode_decompose_variant E hC hCC hIC s hs mask]

/-- the same for every generated language, no table hypothesis -/
theorem C11_unicode_decompose_search_src (S : Sorter) (E : Env) (K : Consts) (order : List ScoreType)
    (st : Store) {name : String} (hT : (name, E.T) ∈ srcLangs) (s : List Nat) (hs : MarkFree E.T.compose s)
    (mask : List Bool) :
    st.searchM S K order (tokenizeQuery srcProg E (uniDecompAt E.T s mask)) =
      st.searchM S K order (tokenizeQuery srcProg E s) := by
  rw [C11_unicode_decompose_variant_src E hT s hs mask]

/-- library level: `search` with the canonically decomposed query leaves the registry exactly as `search` with
    the precomposed one does -/
theorem C11_unicode_decompose_registry (S : Sorter) (envs : Nat → Env) (g : Registry) (id : Nat)
    (s : List Nat) (mask : List Bool) (T : LangTables)
    (h : ∀ lang st, amGet g.stores id = some (lang, st) →
      (envs lang).T = T ∧ ComposeClosed T.compose = true ∧ ComposeCanonical T.compose = true ∧
        InventoryComposed T = true ∧ MarkFree T.compose s) :
    Registry.step S srcProg envs g (.runSearch id (uniDecompAt T s mask)) =
      Registry.step S srcProg envs g (.runSearch id s) := by
  apply step_runSearch_congr
  intro lang st hg
  obtain ⟨hm, hC, hCC, hIC, hs⟩ := h lang st hg
  subst hm
  exact C11_unicode_decompose_search S (envs lang) _ _ st hC hCC hIC s hs mask

/-- library level, every generated language -/
theorem C11_unicode_decompose_registry_src (S : Sorter) (envs : Nat → Env) (g : Registry) (id : Nat)
    (s : List Nat) (mask : List Bool) {name : String} {T : LangTables} (hT : (name, T) ∈ srcLangs)
    (hs : MarkFree T.compose s)
    (h : ∀ lang st, amGet g.stores id = some (lang, st) → (envs lang).T = T) :
    Registry.step S srcProg envs g (.runSearch id (uniDecompAt T s mask)) =
      Registry.step S srcProg envs g (.runSearch id s) :=
  C11_unicode_decompose_registry S envs g id s mask T
    (fun lang st hg => ⟨h lang st hg, (variantTablesOK_of_src hT).1, composeCanonical_src name T hT,
      inventoryComposed_src name T hT, hs⟩)

/-- real Unicode tables of Rust's `std`, each generated language, any stemmer -/
theorem C11_unicode_decompose_variant_std {name : String} {T : LangTables} (hT : (name, T) ∈ srcLangs)
    (stem : List Nat → Nat) (s : List Nat) (hs : MarkFree T.compose s) (mask : List Bool) :
    tokenizeQuery srcProg (stdEnv T stem) (uniDecompAt T s mask) = tokenizeQuery srcProg (stdEnv T stem) s :=
  C11_unicode_decompose_variant_src (stdEnv T stem) (name := name) hT s hs mask

/-- … and the two spellings search alike in every store, for every sorter -/
theorem C11_unicode_decompose_search_std (S : Sorter) {name : String} {T : LangTables} (hT : (name, T) ∈ srcLangs)
    (stem : List Nat → Nat) (st : Store) (s : List Nat) (hs : MarkFree T.compose s) (mask : List Bool) :
    st.searchM S srcConsts srcScoreOrder (tokenizeQuery srcProg (stdEnv T stem) (uniDecompAt T s mask)) =
      st.searchM S srcConsts srcScoreOrder (tokenizeQuery srcProg (stdEnv T stem) s) := by
  rw [C11_unicode_decompose_variant_std hT stem s hs mask]

/-! ### combined variants (fold, re-case, then decompose canonically), real Unicode tables -/

/-- **C11, combined variants, Unicode's decomposition, real tables, each generated language.** For a mark-free
    query `s`, any fold mask, any mark-free re-casing `s'` of the folded string and any subset `dmask` of the
    letters of `s'` written in Unicode's canonical decomposition, the tokenised queries agree up to `source`.
    No hypothesis about the tables or about Unicode is left. -/
theorem C11_unicode_combined_variant_std {name : String} {T : LangTables} (hT : (name, T) ∈ srcLangs)
    (stem : List Nat → Nat) (s : List Nat) (hs : MarkFree T.compose s) (fmask dmask : List Bool)
    (s' : List Nat) (hs' : MarkFree T.compose s')
    (hcase : s'.map srcUnicode.lower1 = (foldAt T.reduce s fmask).map srcUnicode.lower1) :
    (tokenizeQuery srcProg (stdEnv T stem) (uniDecompAt T s' dmask)).sameUpToSource
      (tokenizeQuery srcProg (stdEnv T stem) s) := by
  rw [← decompAt_eq_uni_src hT]
  exact C11_combined_variant_std hT stem s hs fmask dmask s' hs' hcase

/-- … and they search alike in every store: same ids, same highlighted titles, same store afterwards
    (`SorterNatural` is the only hypothesis left). -/
theorem C11_unicode_combined_search_std {S : Sorter} (hS : SorterNatural S) {name : String} {T : LangTables}
    (hT : (name, T) ∈ srcLangs) (stem : List Nat → Nat) (st : Store)
    (s : List Nat) (hs : MarkFree T.compose s) (fmask dmask : List Bool)
    (s' : List Nat) (hs' : MarkFree T.compose s')
    (hcase : s'.map srcUnicode.lower1 = (foldAt T.reduce s fmask).map srcUnicode.lower1) :
    st.searchM S srcConsts srcScoreOrder (tokenizeQuery srcProg (stdEnv T stem) (uniDecompAt T s' dmask)) =
      st.searchM S srcConsts srcScoreOrder (tokenizeQuery srcProg (stdEnv T stem) s) := by
  rw [← decompAt_eq_uni_src hT]
  exact C11_combined_search_std hS hT stem st s hs fmask dmask s' hs' hcase

section Examples

/-- French `MAÏS` with the `Ï` (U+00CF) decomposed canonically: `I` + U+0308 — NOT `Î`'s circumflex -/
example : MarkFree lang_fr.compose [77, 65, 207, 83] ∧ inInventory lang_fr 207 = true ∧
    canonDecomp 207 = some (73, 776) ∧
    uniDecompAt lang_fr [77, 65, 207, 83] [false, false, true] = [77, 65, 73, 776, 83] := by decide +kernel

/-- … both spellings give the same record text, whose `source` is the precomposed `MAÏS` -/
example : tokenizeRecord srcProg (toyEnv lang_fr) [77, 65, 73, 776, 83] =
      tokenizeRecord srcProg (toyEnv lang_fr) [77, 65, 207, 83] ∧
    (tokenizeRecord srcProg (toyEnv lang_fr) [77, 65, 73, 776, 83]).source = [77, 65, 207, 83] :=
  ⟨(show uniDecompAt lang_fr [77, 65, 207, 83] [false, false, true] = [77, 65, 73, 776, 83] by decide +kernel) ▸
      C11_title_unicode_decomposed_src (toyEnv lang_fr) (name := "fr")
        (.tail _ (.tail _ (.tail _ (.tail _ (.head _))))) [77, 65, 207, 83] (by decide +kernel) [false, false, true],
   by decide +kernel⟩

/-- … and `compose` maps the canonical pair of the inventory letter `Ï` back to `Ï` -/
example : compose lang_fr [73, 776] = [207] :=
  C11_unicode_decomposition_of_inventory_letter (name := "fr") (.tail _ (.tail _ (.tail _ (.tail _ (.head _)))))
    (by decide +kernel) (by decide +kernel)

/-- Portuguese `AÇÃO` with `Ç` and `Ã` decomposed: `C` + U+0327, `A` + U+0303 -/
example : MarkFree lang_pt.compose [65, 199, 195, 79] ∧
    uniDecompAt lang_pt [65, 199, 195, 79] [false, true, true] = [65, 67, 807, 65, 771, 79] ∧
    tokenizeQuery srcProg (toyEnv lang_pt) (uniDecompAt lang_pt [65, 199, 195, 79] [false, true, true]) =
      tokenizeQuery srcProg (toyEnv lang_pt) [65, 199, 195, 79] :=
  ⟨by decide +kernel, by decide +kernel,
   C11_unicode_decompose_variant_src (toyEnv lang_pt) (name := "pt")
     (.tail _ (.tail _ (.tail _ (.tail _ (.tail _ (.head _)))))) [65, 199, 195, 79] (by decide +kernel)
     [false, true, true]⟩

/-- Spanish `niño`, real `std` tables, any stemmer, any store, any sorter: the query typed with `n` + U+0303
    searches exactly like the precomposed one -/
example (S : Sorter) (st : Store) (stem : List Nat → Nat) :
    uniDecompAt lang_es [110, 105, 241, 111] [false, false, true] = [110, 105, 110, 771, 111] ∧
    st.searchM S srcConsts srcScoreOrder
        (tokenizeQuery srcProg (stdEnv lang_es stem) (uniDecompAt lang_es [110, 105, 241, 111] [false, false, true])) =
      st.searchM S srcConsts srcScoreOrder (tokenizeQuery srcProg (stdEnv lang_es stem) [110, 105, 241, 111]) :=
  ⟨by decide +kernel,
   C11_unicode_decompose_search_std S (name := "es") (.tail _ (.tail _ (.tail _ (.head _)))) stem st
     [110, 105, 241, 111] (by decide +kernel) [false, false, true]⟩

/-- a NON-inventory letter is left alone: `é` (U+00E9) has a canonical decomposition but is not in the German
    inventory, so it is not touched; `ü` (U+00FC) is, and becomes `u` + U+0308 -/
example : canonDecomp 233 = some (101, 769) ∧ inInventory lang_de 233 = false ∧
    uniDecompChar lang_de 233 = [233] ∧ uniDecompChar lang_de 252 = [117, 776] := by decide +kernel

/-- an inventory letter WITHOUT a canonical decomposition is left alone too: German `ß` (folded to `ss`) -/
example : inInventory lang_de 223 = true ∧ canonDecomp 223 = none ∧ uniDecompChar lang_de 223 = [223] := by
  decide +kernel

end Examples

end Lucid
