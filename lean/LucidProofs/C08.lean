/-
  C08 — documented ranking priorities hold regardless of rating.
  "For words u, v (unrelated to each other) and an unrelated filler x: an exact title word outranks the same word
  with a typo; a title containing both query words outranks one containing only one; the title 'u' outranks 'u'
  with extra trailing letters, for the full word and for any typed prefix of it; 'u v x' outranks 'u x v' for the
  query 'u v'; 'u x' outranks 'x u' for the query 'u' - all of these whatever the ratings. Among identical titles
  the higher rating comes first, and at equal rating the title 'u' outranks 'u x'. When the query is a function
  word f of the store's language, a title with a content word that starts with f outranks a title containing f
  itself, whatever the ratings."

  The rules, by the letters the docstrings below use: (a) exact word over any different word that is no longer, e.g.
  the same word with a substituted letter; (b) both query words over only one; (c) 'u' over 'u' with trailing
  letters, full word or typed prefix; (d) 'u v x' over 'u x v' for 'u v'; (e) 'u x' over 'x u' for 'u'; (f1) identical
  titles: higher rating first; (f2) equal rating: 'u' over 'u x'; (g) function-word query `f`: a content word starting
  with `f` over `f` itself.

  `Outranks h1 h2` (`Lemmas/RankShapes.lean`) = `hitLe h1 h2 = true ∧ hitLe h2 h1 = false`: strictly before in
  the order the results are sorted by. Every theorem is stated for the score order GENERATED from the source
  (`Gen.srcScoreOrder = [chars, words, tails, trans, fin, offset, rating, wordLen, charLen]`) and walks down that
  vector component by component (`strict_cons_eq` / `strict_cons_gt`), so a reordering in the source breaks the
  proofs. Titles and queries are arbitrary `Text`s satisfying the tokenizer guarantee `TextOK` whose word
  structure is fixed by hypotheses on the character lists of the words:
  * `Typed rt w qt v` — the query word `v` is typed text for the title word `w`: an unfinished prefix of it or the
    finished whole word, stems within the words (`Lemmas/Gates.lean`);
  * `a.hi < b.lo` — consecutive words are separated by at least one character (the tokenizer splits on
    separators, so every tokenised text has this; `TextOK` alone only gives `≤`);
  * "disjoint alphabets" — `∀ c ∈ wchars title x, c ∉ wchars query v`;
  * content word — `isFunc K w.pos = false`.
  Numeric hypotheses: `CostsOK K`, `GateNumsOK K`, `JacCapOK K` (`JACCARD_THRESHOLD ≤ 1`), all decided at
  `Gen.srcConsts` (`_src` corollaries). No hypothesis on the ratings except in (f1)/(f2).

  A trap in (e)/(d) (model evaluated with `#eval`, constants of the source): for the title
  "i absolute" and the query "absolute" the joined-record-words closure of `text_match` fires on the filler
  ("i absolut" is within distance 1.5 of "absolute"), leaving the matches `i` (typos 0.2) and `absolut`
  (typos 1.3) and the score vector `[2, 2, -1, 0, 0, 0, …]` instead of the exact match of "absolute" at offset 1
  (`[8, 1, 0, 0, 1, -1, …]`). Rules (e) and (d) still hold in that case (`chars` decides instead of
  `offset` / `trans`); the theorems below cover both branches (`join_chars_lt`).
-/
import LucidProofs.Lemmas.RankShapes
import LucidProofs.C05

namespace Lucid

/-- **C08 (f1): among identical titles the higher rating comes first.** Two records with the same title are
    scored identically by `text_match` for every query; all score components before `rating` coincide and the
    rating decides. -/
theorem C08_identical_titles_rating (K : Consts) (q : Text) (r1 r2 : Record)
    (htitle : r1.title = r2.title) (hrating : r2.rating < r1.rating) :
    Outranks (scoreHit K Gen.srcScoreOrder q r1) (scoreHit K Gen.srcScoreOrder q r2) := by
  rw [outranks_iff, htitle]
  simp only [Gen.srcScoreOrder, List.map, scoreOf]
  exact strict_cons_eq rfl (strict_cons_eq rfl (strict_cons_eq rfl (strict_cons_eq rfl (strict_cons_eq rfl
    (strict_cons_eq rfl (strict_cons_gt (Int.ofNat_lt.mpr hrating)))))))

theorem C08_identical_titles_rating_src (q : Text) (r1 r2 : Record)
    (htitle : r1.title = r2.title) (hrating : r2.rating < r1.rating) :
    Outranks (scoreHit Gen.srcConsts Gen.srcScoreOrder q r1) (scoreHit Gen.srcConsts Gen.srcScoreOrder q r2) :=
  C08_identical_titles_rating Gen.srcConsts q r1 r2 htitle hrating

/-- non-vacuity of (f1): the same title "hello" with ratings 5 and 3, query "hel" -/
example : Outranks
    (scoreHit Gen.srcConsts Gen.srcScoreOrder C05Example.exQ { ix := 0, id := 7, title := C05Example.exT, rating := 5 })
    (scoreHit Gen.srcConsts Gen.srcScoreOrder C05Example.exQ { ix := 1, id := 8, title := C05Example.exT, rating := 3 }) :=
  C08_identical_titles_rating _ _ _ _ rfl (by decide)

/-- **C08 (c): the title 'u' outranks 'u' with extra trailing letters, for the full word and for any typed prefix
    of it, whatever the ratings.** One-word titles `w1` (characters `u`) and `w2` (characters `u ++ tail`,
    `tail ≠ []`), one-word query `v` that is typed text for `w1` (an unfinished prefix `u.take k`, `1 ≤ k ≤ |u|`,
    or the finished word), `w1` a content word. Both titles match the same `k` characters with no typos, so
    `chars` ties; `words` ties or favours `w1`; then `tails` decides: `-(|u|-k) > -(|u|+|tail|-k)`. -/
theorem C08_word_beats_longer_word (K : Consts) (hK : CostsOK K = true) (hN : GateNumsOK K = true)
    (q : Text) (r1 r2 : Record) (w1 w2 v : WordShape)
    (h1 : TextOK r1.title) (h2 : TextOK r2.title) (hq : TextOK q)
    (hw1 : r1.title.words = [w1]) (hw2 : r2.title.words = [w2]) (hqw : q.words = [v])
    (hunfin : v.fin = false)
    (htyped : Typed r1.title w1 q v)
    (hlong : wchars r1.title w1 = (wchars r2.title w2).take w1.len) (htail : w1.len < w2.len)
    (hcontent : isFunc K w1.pos = false) :
    Outranks (scoreHit K Gen.srcScoreOrder q r1) (scoreHit K Gen.srcScoreOrder q r2) := by
  have hw1In := h1.wordIn (show w1 ∈ r1.title.words by simp [hw1])
  have hvIn := hq.wordIn (show v ∈ q.words by simp [hqw])
  have hle := htyped.len_le hw1In hvIn
  rw [outranks_iff, textMatch_one K hK hN r1.title q w1 v h1 hq hw1 hqw htyped,
    textMatch_one K hK hN r2.title q w2 v h2 hq hw2 hqw (htyped.of_prefix hw1In hvIn hunfin hlong), scores_single,
    scores_single, hcontent]
  refine strict_cons_eq rfl ?_
  cases hf2 : isFunc K w2.pos
  · refine strict_cons_eq rfl (strict_cons_gt ?_)
    omega
  · exact strict_cons_gt (by simp)

theorem C08_word_beats_longer_word_src (q : Text) (r1 r2 : Record) (w1 w2 v : WordShape)
    (h1 : TextOK r1.title) (h2 : TextOK r2.title) (hq : TextOK q)
    (hw1 : r1.title.words = [w1]) (hw2 : r2.title.words = [w2]) (hqw : q.words = [v])
    (hunfin : v.fin = false) (htyped : Typed r1.title w1 q v)
    (hlong : wchars r1.title w1 = (wchars r2.title w2).take w1.len) (htail : w1.len < w2.len)
    (hcontent : isFunc Gen.srcConsts w1.pos = false) :
    Outranks (scoreHit Gen.srcConsts Gen.srcScoreOrder q r1) (scoreHit Gen.srcConsts Gen.srcScoreOrder q r2) :=
  C08_word_beats_longer_word Gen.srcConsts costsOK_src gateNumsOK_src q r1 r2 w1 w2 v h1 h2 hq hw1 hw2 hqw hunfin
    htyped hlong htail hcontent

/-- **C08 (g): when the query is a function word `f`, a title with a content word that starts with `f` outranks
    a title containing `f` itself, whatever the ratings.** One-word titles `w1` (a content word whose characters
    start with `f`) and `w2` (characters `f`, a function word of the language: article, preposition, conjunction,
    particle), one-word unfinished query `f`. Both match `|f|` characters with no typos, so `chars` ties; `words`
    counts content-word matches only: 1 against 0. -/
theorem C08_content_word_beats_function_word (K : Consts) (hK : CostsOK K = true) (hN : GateNumsOK K = true)
    (q : Text) (r1 r2 : Record) (w1 w2 v : WordShape)
    (h1 : TextOK r1.title) (h2 : TextOK r2.title) (hq : TextOK q)
    (hw1 : r1.title.words = [w1]) (hw2 : r2.title.words = [w2]) (hqw : q.words = [v])
    (htyped1 : Typed r1.title w1 q v) (htyped2 : Typed r2.title w2 q v)
    (hcontent : isFunc K w1.pos = false) (hfunc : isFunc K w2.pos = true) :
    Outranks (scoreHit K Gen.srcScoreOrder q r1) (scoreHit K Gen.srcScoreOrder q r2) := by
  rw [outranks_iff, textMatch_one K hK hN r1.title q w1 v h1 hq hw1 hqw htyped1,
    textMatch_one K hK hN r2.title q w2 v h2 hq hw2 hqw htyped2, scores_single, scores_single, hcontent, hfunc]
  exact strict_cons_eq rfl (strict_cons_gt (by simp))

theorem C08_content_word_beats_function_word_src (q : Text) (r1 r2 : Record) (w1 w2 v : WordShape)
    (h1 : TextOK r1.title) (h2 : TextOK r2.title) (hq : TextOK q)
    (hw1 : r1.title.words = [w1]) (hw2 : r2.title.words = [w2]) (hqw : q.words = [v])
    (htyped1 : Typed r1.title w1 q v) (htyped2 : Typed r2.title w2 q v)
    (hcontent : isFunc Gen.srcConsts w1.pos = false) (hfunc : isFunc Gen.srcConsts w2.pos = true) :
    Outranks (scoreHit Gen.srcConsts Gen.srcScoreOrder q r1) (scoreHit Gen.srcConsts Gen.srcScoreOrder q r2) :=
  C08_content_word_beats_function_word Gen.srcConsts costsOK_src gateNumsOK_src q r1 r2 w1 w2 v h1 h2 hq hw1 hw2 hqw
    htyped1 htyped2 hcontent hfunc

/-- **C08 (f2): at equal rating the title 'u' outranks 'u x'.** Titles `[w1]` and `[a, b]` where `w1` and `a` are
    content words with the same characters `u`, `b` starts after a gap; one-word query typed for `u` (a prefix or
    the whole word). In the two-word title the scan stops at `a` (a content word), so both titles have the same
    single match; every component up to `rating` ties and `wordLen` decides (`-1 > -2`). -/
theorem C08_shorter_title_equal_rating (K : Consts) (hK : CostsOK K = true) (hN : GateNumsOK K = true)
    (q : Text) (r1 r2 : Record) (w1 a b v : WordShape)
    (h1 : TextOK r1.title) (h2 : TextOK r2.title) (hq : TextOK q)
    (hw1 : r1.title.words = [w1]) (hw2 : r2.title.words = [a, b]) (hqw : q.words = [v])
    (hgap : a.hi < b.lo)
    (htyped1 : Typed r1.title w1 q v) (htyped2 : Typed r2.title a q v)
    (hsame : wchars r1.title w1 = wchars r2.title a)
    (hc1 : isFunc K w1.pos = false) (hc2 : isFunc K a.pos = false)
    (hrating : r1.rating = r2.rating) :
    Outranks (scoreHit K Gen.srcScoreOrder q r1) (scoreHit K Gen.srcScoreOrder q r2) := by
  have hlen := equal_len r2.title a r1.title w1 (h2.wordIn (by simp [hw2])) (h1.wordIn (by simp [hw1])) hsame
  have ho1 := offsets1 h1 hw1
  have ho2 := (offsets2 h2 hw2).1
  rw [outranks_iff, textMatch_one K hK hN r1.title q w1 v h1 hq hw1 hqw htyped1,
    textMatch_two_first K hK hN r2.title q a b v h2 hq hw2 hqw hgap htyped2 hc2, scores_single, scores_single,
    hc1, hc2, hlen, ho1, ho2, hrating, hw1, hw2]
  refine strict_cons_eq rfl (strict_cons_eq rfl (strict_cons_eq rfl (strict_cons_eq rfl (strict_cons_eq rfl
    (strict_cons_eq rfl (strict_cons_eq rfl (strict_cons_gt ?_)))))))
  simp

theorem C08_shorter_title_equal_rating_src (q : Text) (r1 r2 : Record) (w1 a b v : WordShape)
    (h1 : TextOK r1.title) (h2 : TextOK r2.title) (hq : TextOK q)
    (hw1 : r1.title.words = [w1]) (hw2 : r2.title.words = [a, b]) (hqw : q.words = [v])
    (hgap : a.hi < b.lo)
    (htyped1 : Typed r1.title w1 q v) (htyped2 : Typed r2.title a q v)
    (hsame : wchars r1.title w1 = wchars r2.title a)
    (hc1 : isFunc Gen.srcConsts w1.pos = false) (hc2 : isFunc Gen.srcConsts a.pos = false)
    (hrating : r1.rating = r2.rating) :
    Outranks (scoreHit Gen.srcConsts Gen.srcScoreOrder q r1) (scoreHit Gen.srcConsts Gen.srcScoreOrder q r2) :=
  C08_shorter_title_equal_rating Gen.srcConsts costsOK_src gateNumsOK_src q r1 r2 w1 a b v h1 h2 hq hw1 hw2 hqw hgap
    htyped1 htyped2 hsame hc1 hc2 hrating

/-- **C08 (e): 'u x' outranks 'x u' for the query 'u', whatever the ratings.** Titles `[a1, b1]` and `[a2, b2]`
    with words separated by a gap; `a1` and `b2` have the same characters `u` (`a1` a content word), the filler
    `a2` shares no character with the query; one-word query typed for `u` (a prefix or the whole word).
    In `[x, u]` the filler does not match and `u` is matched at offset 1: `chars`, `words`, `tails`, `trans`,
    `fin` tie and `offset` decides (`0 > -1`). (If `x` is so short that the joined closure `x␣u` fires, the two
    matches it leaves score at least two characters less and `chars` decides; see `join_chars_lt`.) -/
theorem C08_early_beats_late (K : Consts) (hK : CostsOK K = true) (hN : GateNumsOK K = true) (hJ : JacCapOK K = true)
    (q : Text) (r1 r2 : Record) (a1 b1 a2 b2 v : WordShape)
    (h1 : TextOK r1.title) (h2 : TextOK r2.title) (hq : TextOK q)
    (hw1 : r1.title.words = [a1, b1]) (hw2 : r2.title.words = [a2, b2]) (hqw : q.words = [v])
    (hgap1 : a1.hi < b1.lo) (hgap2 : a2.hi < b2.lo)
    (htyped1 : Typed r1.title a1 q v) (htyped2 : Typed r2.title b2 q v)
    (hsame : wchars r1.title a1 = wchars r2.title b2)
    (hdis : ∀ c ∈ wchars r2.title a2, c ∉ wchars q v)
    (hcontent : isFunc K a1.pos = false) :
    Outranks (scoreHit K Gen.srcScoreOrder q r1) (scoreHit K Gen.srcScoreOrder q r2) := by
  have hlen := equal_len r2.title b2 r1.title a1 (h2.wordIn (by simp [hw2])) (h1.wordIn (by simp [hw1])) hsame
  have ho1 := (offsets2 h1 hw1).1
  have ho2 := (offsets2 h2 hw2).2
  rw [outranks_iff, textMatch_two_first K hK hN r1.title q a1 b1 v h1 hq hw1 hqw hgap1 htyped1 hcontent, scores_single]
  rcases textMatch_two_second K hK hN hJ r2.title q a2 b2 v h2 hq hw2 hqw hgap2 hdis htyped2 with e | ⟨m1, m2, e, hsc⟩
  · rw [e, scores_single, hcontent, hlen, ho1, ho2]
    refine strict_cons_eq rfl ?_
    cases hf2 : isFunc K b2.pos
    · refine strict_cons_eq rfl (strict_cons_eq rfl (strict_cons_eq rfl (strict_cons_eq rfl (strict_cons_gt ?_))))
      simp
    · exact strict_cons_gt (by simp)
  · rw [e]
    simp only [Gen.srcScoreOrder, List.map, scoreOf]
    exact strict_cons_gt (by omega)

theorem C08_early_beats_late_src (q : Text) (r1 r2 : Record) (a1 b1 a2 b2 v : WordShape)
    (h1 : TextOK r1.title) (h2 : TextOK r2.title) (hq : TextOK q)
    (hw1 : r1.title.words = [a1, b1]) (hw2 : r2.title.words = [a2, b2]) (hqw : q.words = [v])
    (hgap1 : a1.hi < b1.lo) (hgap2 : a2.hi < b2.lo)
    (htyped1 : Typed r1.title a1 q v) (htyped2 : Typed r2.title b2 q v)
    (hsame : wchars r1.title a1 = wchars r2.title b2)
    (hdis : ∀ c ∈ wchars r2.title a2, c ∉ wchars q v)
    (hcontent : isFunc Gen.srcConsts a1.pos = false) :
    Outranks (scoreHit Gen.srcConsts Gen.srcScoreOrder q r1) (scoreHit Gen.srcConsts Gen.srcScoreOrder q r2) :=
  C08_early_beats_late Gen.srcConsts costsOK_src gateNumsOK_src jacCapOK_src q r1 r2 a1 b1 a2 b2 v h1 h2 hq hw1 hw2 hqw
    hgap1 hgap2 htyped1 htyped2 hsame hdis hcontent

/-- **C08 (b): a title containing both query words outranks one containing only one, whatever the ratings.**
    Titles `[a1, b1]` (words `u`, `v`) and `[a2, b2]` (words `u`, `x`), words separated by a gap, `a1`, `a2` content
    words; query `[q1, q2]` with `q1` finished and typed for `u`, `q2` typed for `v` (a prefix or the whole word)
    and sharing no character with the filler `x`. The first title gets two exact matches
    (`chars = |q1| + |q2|`), the second only one (`chars = |q1|`): `chars` decides. The joined closures cannot
    fire here: with a gap of at least one character between words, `u␣v` is longer than `q1` and `q1␣q2` is
    longer than `u` (hypotheses `hgap*`, `hqgap`; the tokenizer only produces such texts). -/
theorem C08_both_words_beat_one (K : Consts) (hK : CostsOK K = true) (hN : GateNumsOK K = true) (hJ : JacCapOK K = true)
    (q : Text) (r1 r2 : Record) (a1 b1 a2 b2 q1 q2 : WordShape)
    (h1 : TextOK r1.title) (h2 : TextOK r2.title) (hq : TextOK q)
    (hw1 : r1.title.words = [a1, b1]) (hw2 : r2.title.words = [a2, b2]) (hqw : q.words = [q1, q2])
    (hgap1 : a1.hi < b1.lo) (hgap2 : a2.hi < b2.lo) (hqgap : q1.hi < q2.lo) (hfin1 : q1.fin = true)
    (htu1 : Typed r1.title a1 q q1) (htu2 : Typed r2.title a2 q q1) (htv : Typed r1.title b1 q q2)
    (hdis : ∀ c ∈ wchars r2.title b2, c ∉ wchars q q2)
    (hc1 : isFunc K a1.pos = false) (hc2 : isFunc K a2.pos = false) :
    Outranks (scoreHit K Gen.srcScoreOrder q r1) (scoreHit K Gen.srcScoreOrder q r2) := by
  have hpos := (hq.wordIn (show q2 ∈ q.words by simp [hqw])).len_pos
  rw [outranks_iff,
    textMatch_twoTwo_both K hK hN r1.title q a1 b1 q1 q2 h1 hq hw1 hqw hgap1 hqgap hfin1 htu1 hc1 htv,
    textMatch_twoTwo_first_only K hK hN hJ r2.title q a2 b2 q1 q2 h2 hq hw2 hqw hgap2 hqgap hfin1 htu2 hc2 hdis,
    scores_pair, scores_single]
  exact strict_cons_gt (by omega)

theorem C08_both_words_beat_one_src (q : Text) (r1 r2 : Record) (a1 b1 a2 b2 q1 q2 : WordShape)
    (h1 : TextOK r1.title) (h2 : TextOK r2.title) (hq : TextOK q)
    (hw1 : r1.title.words = [a1, b1]) (hw2 : r2.title.words = [a2, b2]) (hqw : q.words = [q1, q2])
    (hgap1 : a1.hi < b1.lo) (hgap2 : a2.hi < b2.lo) (hqgap : q1.hi < q2.lo) (hfin1 : q1.fin = true)
    (htu1 : Typed r1.title a1 q q1) (htu2 : Typed r2.title a2 q q1) (htv : Typed r1.title b1 q q2)
    (hdis : ∀ c ∈ wchars r2.title b2, c ∉ wchars q q2)
    (hc1 : isFunc Gen.srcConsts a1.pos = false) (hc2 : isFunc Gen.srcConsts a2.pos = false) :
    Outranks (scoreHit Gen.srcConsts Gen.srcScoreOrder q r1) (scoreHit Gen.srcConsts Gen.srcScoreOrder q r2) :=
  C08_both_words_beat_one Gen.srcConsts costsOK_src gateNumsOK_src jacCapOK_src q r1 r2 a1 b1 a2 b2 q1 q2 h1 h2 hq
    hw1 hw2 hqw hgap1 hgap2 hqgap hfin1 htu1 htu2 htv hdis hc1 hc2

/-- **C08 (d): 'u v x' outranks 'u x v' for the query 'u v', whatever the ratings.** Titles `[a1, b1, c1]` (words
    `u`, `v`, `x`) and `[a2, b2, c2]` (words `u`, `x`, `v`), words separated by gaps, `u` and `v` content words in
    the first title and `u` in the second; query `[q1, q2]` with `q1` finished and typed for `u`, `q2` typed for
    `v` and sharing no character with the filler `x`. Both titles match both query words exactly, `chars`,
    `words`, `tails` tie and `trans` decides (`0 > -1`: the matches are adjacent in the first title, one word
    apart in the second). (If `x` is so short that the joined closure `x␣v` fires, the matches it leaves score at
    least two characters less and `chars` decides.) -/
theorem C08_adjacent_beats_gap (K : Consts) (hK : CostsOK K = true) (hN : GateNumsOK K = true) (hJ : JacCapOK K = true)
    (q : Text) (r1 r2 : Record) (a1 b1 c1 a2 b2 c2 q1 q2 : WordShape)
    (h1 : TextOK r1.title) (h2 : TextOK r2.title) (hq : TextOK q)
    (hw1 : r1.title.words = [a1, b1, c1]) (hw2 : r2.title.words = [a2, b2, c2]) (hqw : q.words = [q1, q2])
    (hgap1 : a1.hi < b1.lo) (hgap1' : b1.hi < c1.lo) (hgap2 : a2.hi < b2.lo) (hgap2' : b2.hi < c2.lo)
    (hqgap : q1.hi < q2.lo) (hfin1 : q1.fin = true)
    (htu1 : Typed r1.title a1 q q1) (htu2 : Typed r2.title a2 q q1)
    (htv1 : Typed r1.title b1 q q2) (htv2 : Typed r2.title c2 q q2)
    (hsame : wchars r1.title b1 = wchars r2.title c2)
    (hdis : ∀ ch ∈ wchars r2.title b2, ch ∉ wchars q q2)
    (hca1 : isFunc K a1.pos = false) (hcb1 : isFunc K b1.pos = false) (hca2 : isFunc K a2.pos = false) :
    Outranks (scoreHit K Gen.srcScoreOrder q r1) (scoreHit K Gen.srcScoreOrder q r2) := by
  obtain ⟨oa1, ob1, _⟩ := offsets3 h1 hw1
  obtain ⟨oa2, _, oc2⟩ := offsets3 h2 hw2
  have hq1In : q1 ∈ q.words := by simp [hqw]
  have hla1 := htu1.len_eq hfin1 (h1.wordIn (by simp [hw1])) (hq.wordIn hq1In)
  have hla2 := htu2.len_eq hfin1 (h2.wordIn (by simp [hw2])) (hq.wordIn hq1In)
  have hlen := equal_len r2.title c2 r1.title b1 (h2.wordIn (by simp [hw2])) (h1.wordIn (by simp [hw1])) hsame
  rw [outranks_iff,
    textMatch_threeTwo_adjacent K hK hN r1.title q a1 b1 c1 q1 q2 h1 hq hw1 hqw hgap1 hgap1' hqgap hfin1 htu1 hca1
      htv1 hcb1, scores_pair]
  rcases textMatch_threeTwo_gap K hK hN hJ r2.title q a2 b2 c2 q1 q2 h2 hq hw2 hqw hgap2 hgap2' hqgap hfin1 htu2 hca2
    hdis htv2 with e | ⟨m1, m2, e, hsc⟩
  · rw [e, scores_pair, hca1, hcb1, hca2, oa1, ob1, oa2, oc2, ← hla1, ← hla2, hlen]
    refine strict_cons_eq rfl ?_
    cases hf2 : isFunc K c2.pos
    · refine strict_cons_eq rfl (strict_cons_eq rfl (strict_cons_gt ?_))
      simp
    · exact strict_cons_gt (by simp)
  · rw [e]
    simp only [Gen.srcScoreOrder, List.map, scoreOf]
    refine strict_cons_gt ?_
    have : scoreChars [hitM K a2 q1, m1, m2] = (q1.len : Int) + scoreChars [m1, m2] := by
      simp [scoreChars, ceilTenths]
    omega

theorem C08_adjacent_beats_gap_src (q : Text) (r1 r2 : Record) (a1 b1 c1 a2 b2 c2 q1 q2 : WordShape)
    (h1 : TextOK r1.title) (h2 : TextOK r2.title) (hq : TextOK q)
    (hw1 : r1.title.words = [a1, b1, c1]) (hw2 : r2.title.words = [a2, b2, c2]) (hqw : q.words = [q1, q2])
    (hgap1 : a1.hi < b1.lo) (hgap1' : b1.hi < c1.lo) (hgap2 : a2.hi < b2.lo) (hgap2' : b2.hi < c2.lo)
    (hqgap : q1.hi < q2.lo) (hfin1 : q1.fin = true)
    (htu1 : Typed r1.title a1 q q1) (htu2 : Typed r2.title a2 q q1)
    (htv1 : Typed r1.title b1 q q2) (htv2 : Typed r2.title c2 q q2)
    (hsame : wchars r1.title b1 = wchars r2.title c2)
    (hdis : ∀ ch ∈ wchars r2.title b2, ch ∉ wchars q q2)
    (hca1 : isFunc Gen.srcConsts a1.pos = false) (hcb1 : isFunc Gen.srcConsts b1.pos = false)
    (hca2 : isFunc Gen.srcConsts a2.pos = false) :
    Outranks (scoreHit Gen.srcConsts Gen.srcScoreOrder q r1) (scoreHit Gen.srcConsts Gen.srcScoreOrder q r2) :=
  C08_adjacent_beats_gap Gen.srcConsts costsOK_src gateNumsOK_src jacCapOK_src q r1 r2 a1 b1 c1 a2 b2 c2 q1 q2 h1 h2 hq
    hw1 hw2 hqw hgap1 hgap1' hgap2 hgap2' hqgap hfin1 htu1 htu2 htv1 htv2 hsame hdis hca1 hcb1 hca2

/-- **C08 (a): an exact title word outranks the same word with a typo, whatever the ratings.** One-word titles
    `w1` (characters `u`) and `w2` (ANY different word that is not longer than `u`: in particular `u` with one
    substituted letter); one-word query with all characters of `u` typed (finished or not). The exact title
    scores `chars = |u|`; the other title is either not matched at all (`chars = 0`), or matched with typos
    (`match_len - 2·⌈typos⌉ ≤ |u| - 2`), or matched on a shorter common prefix (`< |u|`): `chars` decides. -/
theorem C08_exact_beats_typo (K : Consts) (hK : CostsOK K = true) (hN : GateNumsOK K = true)
    (q : Text) (r1 r2 : Record) (w1 w2 v : WordShape)
    (h1 : TextOK r1.title) (h2 : TextOK r2.title) (hq : TextOK q)
    (hw1 : r1.title.words = [w1]) (hw2 : r2.title.words = [w2]) (hqw : q.words = [v])
    (htyped : Typed r1.title w1 q v) (hfull : v.len = w1.len)
    (hlen : w2.len ≤ w1.len) (hne : wchars r2.title w2 ≠ wchars r1.title w1) :
    Outranks (scoreHit K Gen.srcScoreOrder q r1) (scoreHit K Gen.srcScoreOrder q r2) := by
  have hw1In : w1 ∈ r1.title.words := by simp [hw1]
  have hw2In : w2 ∈ r2.title.words := by simp [hw2]
  have hvIn : v ∈ q.words := by simp [hqw]
  have hqv : wchars q v = wchars r1.title w1 := by
    rw [htyped.pre (hq.wordIn hvIn),
      List.take_of_length_le (Nat.le_of_eq ((wchars_length (h1.wordIn hw1In)).trans hfull.symm))]
  have hpos := (hq.wordIn hvIn).len_pos
  rw [outranks_iff, textMatch_one K hK hN r1.title q w1 v h1 hq hw1 hqw htyped, scores_single,
    textMatch_single_of_textOK K h2 hq hw2 hqw]
  simp only [Gen.srcScoreOrder, List.map, scoreOf]
  refine strict_cons_gt ?_
  cases hm : wordMatch K r2.title w2 q v with
  | none => simp [scoreChars]; omega
  | some p =>
    exact typo_chars_lt K hK (h2.wordIn hw2In) (hq.wordIn hvIn) (by omega) (by rw [hqv]; exact hne) hm

theorem C08_exact_beats_typo_src (q : Text) (r1 r2 : Record) (w1 w2 v : WordShape)
    (h1 : TextOK r1.title) (h2 : TextOK r2.title) (hq : TextOK q)
    (hw1 : r1.title.words = [w1]) (hw2 : r2.title.words = [w2]) (hqw : q.words = [v])
    (htyped : Typed r1.title w1 q v) (hfull : v.len = w1.len)
    (hlen : w2.len ≤ w1.len) (hne : wchars r2.title w2 ≠ wchars r1.title w1) :
    Outranks (scoreHit Gen.srcConsts Gen.srcScoreOrder q r1) (scoreHit Gen.srcConsts Gen.srcScoreOrder q r2) :=
  C08_exact_beats_typo Gen.srcConsts costsOK_src gateNumsOK_src q r1 r2 w1 w2 v h1 h2 hq hw1 hw2 hqw htyped hfull
    hlen hne

/-! ### non-vacuity: concrete instances of the hypotheses

Words over pairwise disjoint alphabets: `u` = "hello", `v` = "trick", filler `x` = "zap"; the function word "the"
(an article) and the content word "theme". Each example applies the `_src` theorem to tokenised titles with the
LOWER rating on the winning side ("whatever the ratings"), so every hypothesis is met by a concrete instance. -/
namespace C08Example

/-- "hello" -/
def tU : Text :=
  { words := [{ offset := 0, lo := 0, hi := 5, stem := 5, pos := none, fin := true }],
    source := [104,101,108,108,111], chars := [104,101,108,108,111],
    classes := [.consonant, .vowel, .consonant, .consonant, .vowel] }

theorem tU_ok : TextOK tU := by decide

/-- "helloxy" -/
def tUtail : Text :=
  { words := [{ offset := 0, lo := 0, hi := 7, stem := 7, pos := none, fin := true }],
    source := [104,101,108,108,111,120,121], chars := [104,101,108,108,111,120,121],
    classes := [.consonant, .vowel, .consonant, .consonant, .vowel, .consonant, .consonant] }

theorem tUtail_ok : TextOK tUtail := by decide

/-- "hallo" -/
def tTypo : Text :=
  { words := [{ offset := 0, lo := 0, hi := 5, stem := 5, pos := none, fin := true }],
    source := [104,97,108,108,111], chars := [104,97,108,108,111],
    classes := [.consonant, .vowel, .consonant, .consonant, .vowel] }

theorem tTypo_ok : TextOK tTypo := by decide

/-- "hello zap" -/
def tUX : Text :=
  { words := [{ offset := 0, lo := 0, hi := 5, stem := 5, pos := none, fin := true },
              { offset := 1, lo := 6, hi := 9, stem := 3, pos := none, fin := true }],
    source := [104,101,108,108,111,32,122,97,112], chars := [104,101,108,108,111,32,122,97,112],
    classes := [.consonant, .vowel, .consonant, .consonant, .vowel, .whitespace, .consonant, .vowel, .consonant] }

theorem tUX_ok : TextOK tUX := by decide

/-- "zap hello" -/
def tXU : Text :=
  { words := [{ offset := 0, lo := 0, hi := 3, stem := 3, pos := none, fin := true },
              { offset := 1, lo := 4, hi := 9, stem := 5, pos := none, fin := true }],
    source := [122,97,112,32,104,101,108,108,111], chars := [122,97,112,32,104,101,108,108,111],
    classes := [.consonant, .vowel, .consonant, .whitespace, .consonant, .vowel, .consonant, .consonant, .vowel] }

theorem tXU_ok : TextOK tXU := by decide

/-- "hello trick" -/
def tUV : Text :=
  { words := [{ offset := 0, lo := 0, hi := 5, stem := 5, pos := none, fin := true },
              { offset := 1, lo := 6, hi := 11, stem := 5, pos := none, fin := true }],
    source := [104,101,108,108,111,32,116,114,105,99,107], chars := [104,101,108,108,111,32,116,114,105,99,107],
    classes := [.consonant, .vowel, .consonant, .consonant, .vowel, .whitespace, .consonant, .consonant, .vowel, .consonant, .consonant] }

theorem tUV_ok : TextOK tUV := by decide

/-- "hello trick zap" -/
def tUVX : Text :=
  { words := [{ offset := 0, lo := 0, hi := 5, stem := 5, pos := none, fin := true },
              { offset := 1, lo := 6, hi := 11, stem := 5, pos := none, fin := true },
              { offset := 2, lo := 12, hi := 15, stem := 3, pos := none, fin := true }],
    source := [104,101,108,108,111,32,116,114,105,99,107,32,122,97,112], chars := [104,101,108,108,111,32,116,114,105,99,107,32,122,97,112],
    classes := [.consonant, .vowel, .consonant, .consonant, .vowel, .whitespace, .consonant, .consonant, .vowel, .consonant, .consonant, .whitespace, .consonant, .vowel, .consonant] }

theorem tUVX_ok : TextOK tUVX := by decide

/-- "hello zap trick" -/
def tUXV : Text :=
  { words := [{ offset := 0, lo := 0, hi := 5, stem := 5, pos := none, fin := true },
              { offset := 1, lo := 6, hi := 9, stem := 3, pos := none, fin := true },
              { offset := 2, lo := 10, hi := 15, stem := 5, pos := none, fin := true }],
    source := [104,101,108,108,111,32,122,97,112,32,116,114,105,99,107], chars := [104,101,108,108,111,32,122,97,112,32,116,114,105,99,107],
    classes := [.consonant, .vowel, .consonant, .consonant, .vowel, .whitespace, .consonant, .vowel, .consonant, .whitespace, .consonant, .consonant, .vowel, .consonant, .consonant] }

theorem tUXV_ok : TextOK tUXV := by decide

/-- "the" -/
def tThe : Text :=
  { words := [{ offset := 0, lo := 0, hi := 3, stem := 3, pos := some Pos.article, fin := true }],
    source := [116,104,101], chars := [116,104,101],
    classes := [.consonant, .consonant, .vowel] }

theorem tThe_ok : TextOK tThe := by decide

/-- "theme" -/
def tTheme : Text :=
  { words := [{ offset := 0, lo := 0, hi := 5, stem := 5, pos := none, fin := true }],
    source := [116,104,101,109,101], chars := [116,104,101,109,101],
    classes := [.consonant, .consonant, .vowel, .consonant, .vowel] }

theorem tTheme_ok : TextOK tTheme := by decide

/-- "hello" -/
def qU : Text :=
  { words := [{ offset := 0, lo := 0, hi := 5, stem := 5, pos := none, fin := false }],
    source := [104,101,108,108,111], chars := [104,101,108,108,111],
    classes := [.consonant, .vowel, .consonant, .consonant, .vowel] }

theorem qU_ok : TextOK qU := by decide

/-- "hel" -/
def qHel : Text :=
  { words := [{ offset := 0, lo := 0, hi := 3, stem := 3, pos := none, fin := false }],
    source := [104,101,108], chars := [104,101,108],
    classes := [.consonant, .vowel, .consonant] }

theorem qHel_ok : TextOK qHel := by decide

/-- "hello trick" -/
def qUV : Text :=
  { words := [{ offset := 0, lo := 0, hi := 5, stem := 5, pos := none, fin := true },
              { offset := 1, lo := 6, hi := 11, stem := 5, pos := none, fin := false }],
    source := [104,101,108,108,111,32,116,114,105,99,107], chars := [104,101,108,108,111,32,116,114,105,99,107],
    classes := [.consonant, .vowel, .consonant, .consonant, .vowel, .whitespace, .consonant, .consonant, .vowel, .consonant, .consonant] }

theorem qUV_ok : TextOK qUV := by decide

/-- "the" -/
def qThe : Text :=
  { words := [{ offset := 0, lo := 0, hi := 3, stem := 3, pos := some Pos.article, fin := false }],
    source := [116,104,101], chars := [116,104,101],
    classes := [.consonant, .consonant, .vowel] }

theorem qThe_ok : TextOK qThe := by decide


abbrev C := Gen.srcConsts
abbrev O := Gen.srcScoreOrder

/-- (c) "hello" (rating 0) outranks "helloxy" (rating 1000) for the typed prefix "hel" … -/
example : Outranks (scoreHit C O qHel ⟨0, 1, tU, 0⟩) (scoreHit C O qHel ⟨1, 2, tUtail, 1000⟩) :=
  C08_word_beats_longer_word_src qHel _ _ _ _ _ tU_ok tUtail_ok qHel_ok rfl rfl rfl rfl
    (by unfold Typed; decide) (by decide) (by decide) (by decide)

/-- … and for the full word "hello" -/
example : Outranks (scoreHit C O qU ⟨0, 1, tU, 0⟩) (scoreHit C O qU ⟨1, 2, tUtail, 1000⟩) :=
  C08_word_beats_longer_word_src qU _ _ _ _ _ tU_ok tUtail_ok qU_ok rfl rfl rfl rfl
    (by unfold Typed; decide) (by decide) (by decide) (by decide)

/-- (g) query "the": the title "theme" (rating 0) outranks the title "the" (rating 1000) -/
example : Outranks (scoreHit C O qThe ⟨0, 1, tTheme, 0⟩) (scoreHit C O qThe ⟨1, 2, tThe, 1000⟩) :=
  C08_content_word_beats_function_word_src qThe _ _ _ _ _ tTheme_ok tThe_ok qThe_ok rfl rfl rfl
    (by unfold Typed; decide) (by unfold Typed; decide) (by decide) (by decide)

/-- (f2) equal ratings: "hello" outranks "hello zap" for the query "hello" -/
example : Outranks (scoreHit C O qU ⟨0, 1, tU, 7⟩) (scoreHit C O qU ⟨1, 2, tUX, 7⟩) :=
  C08_shorter_title_equal_rating_src qU _ _ _ _ _ _ tU_ok tUX_ok qU_ok rfl rfl rfl (by decide)
    (by unfold Typed; decide) (by unfold Typed; decide) (by decide) (by decide) (by decide) rfl

/-- (e) "hello zap" (rating 0) outranks "zap hello" (rating 1000) for the query "hello" -/
example : Outranks (scoreHit C O qU ⟨0, 1, tUX, 0⟩) (scoreHit C O qU ⟨1, 2, tXU, 1000⟩) :=
  C08_early_beats_late_src qU _ _ _ _ _ _ _ tUX_ok tXU_ok qU_ok rfl rfl rfl (by decide) (by decide)
    (by unfold Typed; decide) (by unfold Typed; decide) (by decide) (by decide) (by decide)

/-- (b) "hello trick" (rating 0) outranks "hello zap" (rating 1000) for the query "hello trick" -/
example : Outranks (scoreHit C O qUV ⟨0, 1, tUV, 0⟩) (scoreHit C O qUV ⟨1, 2, tUX, 1000⟩) :=
  C08_both_words_beat_one_src qUV _ _ _ _ _ _ _ _ tUV_ok tUX_ok qUV_ok rfl rfl rfl (by decide) (by decide) (by decide)
    rfl (by unfold Typed; decide) (by unfold Typed; decide) (by unfold Typed; decide) (by decide) (by decide) (by decide)

/-- (d) "hello trick zap" (rating 0) outranks "hello zap trick" (rating 1000) for the query "hello trick" -/
example : Outranks (scoreHit C O qUV ⟨0, 1, tUVX, 0⟩) (scoreHit C O qUV ⟨1, 2, tUXV, 1000⟩) :=
  C08_adjacent_beats_gap_src qUV _ _ _ _ _ _ _ _ _ _ tUVX_ok tUXV_ok qUV_ok rfl rfl rfl
    (by decide) (by decide) (by decide) (by decide) (by decide) rfl
    (by unfold Typed; decide) (by unfold Typed; decide) (by unfold Typed; decide) (by unfold Typed; decide)
    (by decide) (by decide) (by decide) (by decide) (by decide)

/-- (a) "hello" (rating 0) outranks "hallo" (rating 1000) for the query "hello" -/
example : Outranks (scoreHit C O qU ⟨0, 1, tU, 0⟩) (scoreHit C O qU ⟨1, 2, tTypo, 1000⟩) :=
  C08_exact_beats_typo_src qU _ _ _ _ _ tU_ok tTypo_ok qU_ok rfl rfl rfl (by unfold Typed; decide) (by decide)
    (by decide) (by decide)

/-- the numeric hypotheses are met by the constants generated from the source -/
example : CostsOK C = true ∧ GateNumsOK C = true ∧ JacCapOK C = true := ⟨costsOK_src, gateNumsOK_src, jacCapOK_src⟩

end C08Example

end Lucid
