/-
  C15std — property theorems WITHOUT any Unicode hypothesis: instantiations at the real tables of Rust's
  `std` (`Gen.srcUnicode`, generated from a dump of `char::is_alphabetic`, `is_numeric`, `is_whitespace`,
  `is_control`, `is_uppercase`, `to_lowercase` over all scalars) of the theorems that assume `UnicodeFacts`,
  `AsciiFacts`, `SepLowerOn`, `CaseClosedOn`. These hypotheses are theorems for the real tables
  (`Lemmas/UnicodeSrc.lean`: `unicodeFacts_src`, `asciiFacts_src`, `sepLowerOn_src`, `caseClosedOn_src`), proved
  by kernel computation. What remains assumed: the Snowball bound `StemHyp` (third-party stemmers; nothing for
  `lang_none`) and the sorter contract (`SorterOK` / `SorterNatural`).

  The environment is `stdEnv T stem` = `Gen.srcProg.env Gen.srcUnicode T stem`: generated constants and step lists,
  the real Unicode oracle, a language table `T` with `TablesOK T` (a kernel-checked fact for each of the seven
  generated languages, `tablesOK_of_srcLangs`), any stemmer.
-/
import LucidProofs.C01
import LucidProofs.C03b
import LucidProofs.C11b
import LucidProofs.Lemmas.UnicodeSrc

namespace Lucid
open Gen


/-- **C15 for `tokenize_query`, real Unicode tables.** Whatever text is typed, in every language whose tables meet
    `TablesOK` (all seven generated ones), the tokenised query satisfies every clause of `TokInv` with the
    character predicates of Rust's `std` as dumped: arrays of one length; words numbered 0,1,2,…, non-empty, in
    bounds, ordered, disjoint; each begins and ends with a letter or digit and contains no whitespace, control or
    punctuation character; remaining upper-case characters are those `to_lowercase` leaves alone (D4);
    `1 ≤ stem ≤ len`; every letter/digit in exactly one word; the source without NULs is the composed input; only
    the last word can be unfinished. No hypothesis about Unicode is left. -/
theorem C15_query_std (T : LangTables) (hT : TablesOK T = true) (stem : List Nat → Nat)
    (hS : StemHyp (stdEnv T stem)) (s : List Nat) :
    TokInv (stdEnv T stem) true s (tokenizeQuery srcProg (stdEnv T stem) s) :=
  C15_tokenizeQuery_src srcUnicode T stem unicodeFacts_src hT hS s

/-- **C15 for `tokenize_record`, real Unicode tables**; every word of a record is finished. -/
theorem C15_record_std (T : LangTables) (hT : TablesOK T = true) (stem : List Nat → Nat)
    (hS : StemHyp (stdEnv T stem)) (s : List Nat) :
    TokInv (stdEnv T stem) false s (tokenizeRecord srcProg (stdEnv T stem) s) :=
  C15_tokenizeRecord_src srcUnicode T stem unicodeFacts_src hT hS s

/-- C15 in each of the seven generated languages -/
theorem C15_query_stdLangs {name : String} {T : LangTables} (hT : (name, T) ∈ srcLangs) (stem : List Nat → Nat)
    (hS : StemHyp (stdEnv T stem)) (s : List Nat) :
    TokInv (stdEnv T stem) true s (tokenizeQuery srcProg (stdEnv T stem) s) :=
  C15_query_std T (tablesOK_of_srcLangs hT) stem hS s

theorem C15_record_stdLangs {name : String} {T : LangTables} (hT : (name, T) ∈ srcLangs) (stem : List Nat → Nat)
    (hS : StemHyp (stdEnv T stem)) (s : List Nat) :
    TokInv (stdEnv T stem) false s (tokenizeRecord srcProg (stdEnv T stem) s) :=
  C15_record_std T (tablesOK_of_srcLangs hT) stem hS s

/-- on the real tables `StemHyp` reduces to `StemBounded`, for any stem oracle: the `FoldClosed` and `LowerKeyFree`
    parts are theorems about the generated data -/
theorem stemHyp_std_of_bounded {name : String} {T : LangTables} (hT : (name, T) ∈ srcLangs) (stem : List Nat → Nat)
    (hB : StemBounded (stdEnv T stem)) : StemHyp (stdEnv T stem) :=
  fun _ => ⟨foldClosed_of_srcLangs hT, lowerKeyFree_std hT stem, hB⟩

theorem toyStemHyp_std {name : String} {T : LangTables} (hT : (name, T) ∈ srcLangs) : StemHyp (stdEnv T toyStem) :=
  stemHyp_std_of_bounded hT toyStem (toyStem_bounded rfl)

/-- non-vacuity: the hypotheses are met in German with a bounded stemmer, and in `lang_none` with any function -/
example (s : List Nat) : TokInv (stdEnv lang_de toyStem) true s (tokenizeQuery srcProg (stdEnv lang_de toyStem) s) :=
  C15_query_std lang_de tablesOK_de toyStem (toyStemHyp_std (name := "de") (by simp [srcLangs])) s

example (f : List Nat → Nat) (s : List Nat) :
    TokInv (stdEnv lang_none f) false s (tokenizeRecord srcProg (stdEnv lang_none f) s) :=
  C15_record_std lang_none tablesOK_none f (stemHyp_of_no_stemmer _ rfl) s

/-- the tokenizer evaluated by the kernel on the real tables, German: `Über ẞ` gives the characters `uber ss`
    (`Ü` is reduced to `U` and lower-cased, `ẞ` U+1E9E is reduced to `SS`), two words -/
example : (tokenizeQuery srcProg (stdEnv lang_de toyStem) [220, 98, 101, 114, 32, 7838]).chars =
      [117, 98, 101, 114, 32, 115, 115] ∧
    (tokenizeQuery srcProg (stdEnv lang_de toyStem) [220, 98, 101, 114, 32, 7838]).words.map
      (fun w => (w.lo, w.hi, w.fin)) = [(0, 4, true), (5, 7, false)] := by
  rw [stdEnv, srcUnicode_eq_fast]; decide +kernel

/-- finding D4 on the real tables: `ℂx` (U+2102, `is_uppercase`, no lower-case mapping) stays as it is in a
    tokenised word — the clause `no_upper` of `TokInv` cannot be strengthened to "no upper-case character" -/
example : (tokenizeRecord srcProg (stdEnv lang_en toyStem) [0x2102, 120]).chars = [0x2102, 120] ∧
    srcUnicode.isUppercase 0x2102 = true := by decide +kernel

/-- **C01, real Unicode tables.** No sequence of `add_record` / `search` / `set_limit` / `highlight_with` /
    `clear` calls on raw strings reaches a trap site of the engine (see `C01_api_safe_src` for the list), with the
    character predicates of Rust's `std`. Left: `SorterOK`, `TablesOK` (a fact for the generated languages),
    `StemHyp`. -/
theorem C01_api_safe_std (S : Sorter) (hS : SorterOK S) (T : LangTables) (hT : TablesOK T = true)
    (stem : List Nat → Nat) (hSt : StemHyp (stdEnv T stem)) (ops : List ApiOp) :
    apiRunSafe S srcProg (stdEnv T stem) (Store.new srcConsts) ops = true :=
  C01_api_safe_src S hS (stdEnv T stem) rfl unicodeFacts_src hT hSt ops

theorem C01_api_safe_stdLangs (S : Sorter) (hS : SorterOK S) {name : String} {T : LangTables}
    (hT : (name, T) ∈ srcLangs) (stem : List Nat → Nat) (hSt : StemHyp (stdEnv T stem)) (ops : List ApiOp) :
    apiRunSafe S srcProg (stdEnv T stem) (Store.new srcConsts) ops = true :=
  C01_api_safe_std S hS T (tablesOK_of_srcLangs hT) stem hSt ops

/-- non-vacuity: every hypothesis is met in French with the insertion sorter and the half-length stemmer -/
example (ops : List ApiOp) :
    apiRunSafe C13Example.exSorter srcProg (stdEnv lang_fr toyStem) (Store.new srcConsts) ops = true :=
  C01_api_safe_std _ C13Example.exSorter_ok lang_fr tablesOK_fr toyStem (toyStemHyp_std (name := "fr") (by simp [srcLangs])) ops

/-- **C03 on tokenised texts, real Unicode tables** (`C03_prefix_found_tokenized_src` with `UnicodeFacts`
    discharged): typing the first characters of a word of a stored title returns the record. -/
theorem C03_prefix_found_tokenized_std (S : Sorter) (hS : SorterOK S)
    (T : LangTables) (stem : List Nat → Nat) (hT : TablesOK T = true) (hSt : StemHyp (stdEnv T stem))
    (ops : List StoreOp)
    (hops : ∀ id t rating, StoreOp.add id t rating ∈ ops → ∃ s, t = tokenizeRecord srcProg (stdEnv T stem) s)
    (hlim : ((Store.new srcConsts).run S srcConsts srcScoreOrder ops).records.length
              ≤ ((Store.new srcConsts).run S srcConsts srcScoreOrder ops).limit)
    (ix : Nat) (r : Record)
    (hr : ((Store.new srcConsts).run S srcConsts srcScoreOrder ops).records[ix]? = some r)
    (s : List Nat) (v : WordShape)
    (hq : (tokenizeQuery srcProg (stdEnv T stem) s).words = [v]) (hfin : v.fin = false)
    (w : WordShape) (hw : w ∈ r.title.words) (hle : v.len ≤ w.len)
    (hpre : wchars (tokenizeQuery srcProg (stdEnv T stem) s) v = (wchars r.title w).take v.len) :
    ∃ res ∈ ((Store.new srcConsts).run S srcConsts srcScoreOrder ops).search S srcConsts
        srcScoreOrder (tokenizeQuery srcProg (stdEnv T stem) s),
      res.id = r.id ∧
      res = ((Store.new srcConsts).run S srcConsts srcScoreOrder ops).render
              (scoreHit srcConsts srcScoreOrder (tokenizeQuery srcProg (stdEnv T stem) s) r) :=
  C03_prefix_found_tokenized_src S hS srcUnicode T stem unicodeFacts_src hT hSt ops hops hlim ix r hr s v hq hfin w hw
    hle hpre

/-- **C03 for ASCII prefixes, real Unicode tables** (`C03_prefix_ascii_found_src` with `UnicodeFacts` and
    `AsciiFacts` discharged): if the first `k ≥ 1` characters of a title word are letters `a`–`z` or digits, typing
    them returns the record. No premise about the tokenizer or about Unicode. -/
theorem C03_prefix_ascii_found_std (S : Sorter) (hS : SorterOK S)
    (T : LangTables) (stem : List Nat → Nat) (hT : TablesOK T = true) (hF : AsciiFreeTables T = true)
    (hSt : StemHyp (stdEnv T stem)) (ops : List StoreOp)
    (hops : ∀ id t rating, StoreOp.add id t rating ∈ ops → ∃ s, t = tokenizeRecord srcProg (stdEnv T stem) s)
    (hlim : ((Store.new srcConsts).run S srcConsts srcScoreOrder ops).records.length
              ≤ ((Store.new srcConsts).run S srcConsts srcScoreOrder ops).limit)
    (ix : Nat) (r : Record)
    (hr : ((Store.new srcConsts).run S srcConsts srcScoreOrder ops).records[ix]? = some r)
    (w : WordShape) (hw : w ∈ r.title.words) (k : Nat) (hk : 1 ≤ k)
    (hascii : AsciiLower ((wchars r.title w).take k)) :
    ∃ res ∈ ((Store.new srcConsts).run S srcConsts srcScoreOrder ops).search S srcConsts
        srcScoreOrder (tokenizeQuery srcProg (stdEnv T stem) ((wchars r.title w).take k)),
      res.id = r.id ∧
      res = ((Store.new srcConsts).run S srcConsts srcScoreOrder ops).render
              (scoreHit srcConsts srcScoreOrder
                (tokenizeQuery srcProg (stdEnv T stem) ((wchars r.title w).take k)) r) :=
  C03_prefix_ascii_found_src S hS srcUnicode T stem unicodeFacts_src asciiFacts_src hT hF hSt ops hops hlim ix r hr w
    hw k hk hascii

/-- **C04 on tokenised texts, real Unicode tables** (`C04_single_edit_found_tokenized_src` with `UnicodeFacts`
    discharged): a word of at least five characters, three of them distinct, typed with one error, is found. -/
theorem C04_single_edit_found_tokenized_std (S : Sorter) (hS : SorterOK S)
    (T : LangTables) (stem : List Nat → Nat) (hTb : TablesOK T = true) (hSt : StemHyp (stdEnv T stem))
    (ops : List StoreOp)
    (hops : ∀ id t rating, StoreOp.add id t rating ∈ ops → ∃ s, t = tokenizeRecord srcProg (stdEnv T stem) s)
    (hlim : ((Store.new srcConsts).run S srcConsts srcScoreOrder ops).records.length
              ≤ ((Store.new srcConsts).run S srcConsts srcScoreOrder ops).limit)
    (ix : Nat) (r : Record)
    (hr : ((Store.new srcConsts).run S srcConsts srcScoreOrder ops).records[ix]? = some r)
    (s : List Nat) (v : WordShape)
    (hq : (tokenizeQuery srcProg (stdEnv T stem) s).words = [v]) (hfin : v.fin = false)
    (w : WordShape) (hw : w ∈ r.title.words) (h5 : 5 ≤ w.len) (h3 : 3 ≤ distinctCard (wchars r.title w))
    (hed : Edit1 (wchars r.title w) (wchars (tokenizeQuery srcProg (stdEnv T stem) s) v)) :
    ∃ res ∈ ((Store.new srcConsts).run S srcConsts srcScoreOrder ops).search S srcConsts
        srcScoreOrder (tokenizeQuery srcProg (stdEnv T stem) s),
      res.id = r.id ∧
      res = ((Store.new srcConsts).run S srcConsts srcScoreOrder ops).render
              (scoreHit srcConsts srcScoreOrder (tokenizeQuery srcProg (stdEnv T stem) s) r) :=
  C04_single_edit_found_tokenized_src S hS srcUnicode T stem unicodeFacts_src hTb hSt ops hops hlim ix r hr s v hq
    hfin w hw h5 h3 hed

/-- **C04 for ASCII misspellings, real Unicode tables** (`C04_single_edit_ascii_found_src` with `UnicodeFacts`
    and `AsciiFacts` discharged). -/
theorem C04_single_edit_ascii_found_std (S : Sorter) (hS : SorterOK S)
    (T : LangTables) (stem : List Nat → Nat) (hTb : TablesOK T = true) (hF : AsciiFreeTables T = true)
    (hSt : StemHyp (stdEnv T stem)) (ops : List StoreOp)
    (hops : ∀ id t rating, StoreOp.add id t rating ∈ ops → ∃ s, t = tokenizeRecord srcProg (stdEnv T stem) s)
    (hlim : ((Store.new srcConsts).run S srcConsts srcScoreOrder ops).records.length
              ≤ ((Store.new srcConsts).run S srcConsts srcScoreOrder ops).limit)
    (ix : Nat) (r : Record)
    (hr : ((Store.new srcConsts).run S srcConsts srcScoreOrder ops).records[ix]? = some r)
    (w : WordShape) (hw : w ∈ r.title.words) (h5 : 5 ≤ w.len) (h3 : 3 ≤ distinctCard (wchars r.title w))
    (cs' : List Nat) (hascii : AsciiLower cs') (hed : Edit1 (wchars r.title w) cs') :
    ∃ res ∈ ((Store.new srcConsts).run S srcConsts srcScoreOrder ops).search S srcConsts
        srcScoreOrder (tokenizeQuery srcProg (stdEnv T stem) cs'),
      res.id = r.id ∧
      res = ((Store.new srcConsts).run S srcConsts srcScoreOrder ops).render
              (scoreHit srcConsts srcScoreOrder (tokenizeQuery srcProg (stdEnv T stem) cs') r) :=
  C04_single_edit_ascii_found_src S hS srcUnicode T stem unicodeFacts_src asciiFacts_src hTb hF hSt ops hops hlim ix r
    hr w hw h5 h3 cs' hascii hed

/-- **C13 for the typed string, real Unicode tables** (`C13_whole_title_typed_src` with `UnicodeFacts`
    discharged): in a store holding no more records than its limit, a record added with the title text `s` (any
    text with at least one word) is returned when exactly `s` is typed — in every language, with the character
    predicates of Rust's `std`, and no premise about tokenisation. -/
theorem C13_whole_title_typed_std (S : Sorter) (hS : SorterOK S)
    (T : LangTables) (stem : List Nat → Nat) (hT : TablesOK T = true) (hSt : StemHyp (stdEnv T stem))
    (ops : List StoreOp)
    (hops : ∀ id t rating, StoreOp.add id t rating ∈ ops → ∃ s, t = tokenizeRecord srcProg (stdEnv T stem) s)
    (hlim : ((Store.new srcConsts).run S srcConsts srcScoreOrder ops).records.length
              ≤ ((Store.new srcConsts).run S srcConsts srcScoreOrder ops).limit)
    (ix : Nat) (r : Record)
    (hr : ((Store.new srcConsts).run S srcConsts srcScoreOrder ops).records[ix]? = some r)
    (s : List Nat) (htitle : r.title = tokenizeRecord srcProg (stdEnv T stem) s) (hne : r.title.words ≠ []) :
    ∃ res ∈ ((Store.new srcConsts).run S srcConsts srcScoreOrder ops).search S srcConsts
        srcScoreOrder (tokenizeQuery srcProg (stdEnv T stem) s),
      res.id = r.id ∧
      res = ((Store.new srcConsts).run S srcConsts srcScoreOrder ops).render
              (scoreHit srcConsts srcScoreOrder (tokenizeQuery srcProg (stdEnv T stem) s) r) :=
  C13_whole_title_typed_src S hS srcUnicode T stem unicodeFacts_src hT hSt ops hops hlim ix r hr s htitle hne

/-- the German title `Über uns`, tokenised with the real tables, in a one-record store -/
def exOpsStd : List StoreOp :=
  [.add 42 (tokenizeRecord srcProg (stdEnv lang_de toyStem) [220, 98, 101, 114, 32, 117, 110, 115]) 7]

/-- non-vacuity of `C13_whole_title_typed_std`: all hypotheses are met (kernel-evaluated on the real tables) by
    typing `Über uns` against the stored title `Über uns` -/
example : ∃ res ∈ ((Store.new srcConsts).run C13Example.exSorter srcConsts srcScoreOrder exOpsStd).search
      C13Example.exSorter srcConsts srcScoreOrder
      (tokenizeQuery srcProg (stdEnv lang_de toyStem) [220, 98, 101, 114, 32, 117, 110, 115]), res.id = 42 := by
  have hops : ∀ id t rating, StoreOp.add id t rating ∈ exOpsStd →
      ∃ s, t = tokenizeRecord srcProg (stdEnv lang_de toyStem) s := by
    intro id t rating hm
    simp only [exOpsStd, List.mem_cons, StoreOp.add.injEq, List.not_mem_nil, or_false] at hm
    exact ⟨_, hm.2.1⟩
  obtain ⟨res, h1, h2, _⟩ := C13_whole_title_typed_std C13Example.exSorter C13Example.exSorter_ok lang_de toyStem
    tablesOK_de (toyStemHyp_std (name := "de") (by simp [srcLangs])) exOpsStd hops (by decide : (1 : Nat) ≤ 10) 0
    { ix := 0, id := 42,
      title := tokenizeRecord srcProg (stdEnv lang_de toyStem) [220, 98, 101, 114, 32, 117, 110, 115], rating := 7 }
    rfl [220, 98, 101, 114, 32, 117, 110, 115] rfl (by decide +kernel)
  exact ⟨res, h1, h2⟩

/-- **C11 (re-casing), real Unicode tables, each generated language.** For mark-free query texts `s`, `s'` that
    agree after `to_lowercase` of every character (first character of the mapping, as in the source), the search
    returns the same results — `UnicodeFacts`, `SepLowerOn` and `CaseClosedOn` are theorems for the real tables
    and the seven generated reduce tables, so only `SorterNatural` is left. Title-case letters, `ẞ`/`ß` in German,
    the Kelvin and Ångström signs, … are all covered: the statement is for every `c : Nat`. -/
theorem C11_recase_search_std {S : Sorter} (hS : SorterNatural S) {name : String} {T : LangTables}
    (hT : (name, T) ∈ srcLangs) (stem : List Nat → Nat) (st : Store) (s s' : List Nat)
    (hs : MarkFree T.compose s) (hs' : MarkFree T.compose s')
    (hcase : s'.map srcUnicode.lower1 = s.map srcUnicode.lower1) :
    st.search S srcConsts srcScoreOrder (tokenizeQuery srcProg (stdEnv T stem) s') =
      st.search S srcConsts srcScoreOrder (tokenizeQuery srcProg (stdEnv T stem) s) :=
  C11_recase_search_src hS (stdEnv T stem) unicodeFacts_src hT st s s' hs hs' hcase
    (caseClosedOn_src _ rfl hT _) (sepLowerOn_src _ rfl rfl _)

/-- the same at the level of tokenised queries: equal up to `source` -/
theorem C11_recase_variant_std {name : String} {T : LangTables} (hT : (name, T) ∈ srcLangs)
    (stem : List Nat → Nat) (s s' : List Nat)
    (hs : MarkFree T.compose s) (hs' : MarkFree T.compose s')
    (hcase : s'.map srcUnicode.lower1 = s.map srcUnicode.lower1) :
    (tokenizeQuery srcProg (stdEnv T stem) s').sameUpToSource (tokenizeQuery srcProg (stdEnv T stem) s) :=
  C11_recase_variant_src (stdEnv T stem) unicodeFacts_src hT s s' hs hs' hcase
    (caseClosedOn_src _ rfl hT _) (sepLowerOn_src _ rfl rfl _)

/-- non-vacuity with the real tables, German: `Über ẞ ǅ` typed `üBER ß ǆ` (U+1E9E ↦ U+00DF; the title-case
    digraph U+01C5 ↦ U+01C6 is not `is_uppercase`) searches alike in every store -/
example (st : Store) (stem : List Nat → Nat) :
    st.search insSorter srcConsts srcScoreOrder
        (tokenizeQuery srcProg (stdEnv lang_de stem) [252, 66, 69, 82, 32, 223, 32, 454]) =
      st.search insSorter srcConsts srcScoreOrder
        (tokenizeQuery srcProg (stdEnv lang_de stem) [220, 98, 101, 114, 32, 7838, 32, 453]) :=
  C11_recase_search_std insSorter_natural (name := "de") (.tail _ (.head _)) stem st _ _ (by decide) (by decide)
    (by rw [srcUnicode_eq_fast]; decide +kernel)

end Lucid
