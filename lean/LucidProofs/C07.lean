/-
  C07 — "The relative order of any two hits is the same as when only those two records are in the store, whichever
  of them was added first. With pairwise distinct ratings and at most ten times `limit` records, adding the same
  records in a different order yields exactly the same hit list."

  * `C07_sorted`          — the results are in hit order (`hitLe`, the model of `sort::compare_hits`);
  * `C07_order_local`     — the comparison of two hits depends only on the two records' own `(title, rating)`;
  * `C07_two_store`       — the store holding just two records (either insertion order) returns them in hit order;
  * `C07_pair_order`      — two hits `r1` before `r2` of ANY store come out as `[r1, r2]` of the two-record store,
                            whichever of them is added first (distinct ratings: with a tie the order of the two is
                            not determined, see the counterexample at the end);
  * `C07_perm_invariant`  — reordering the records does not change any answer (distinct ratings, below the cap).

  Vocabulary: Lemmas/Locality.lean (`mkStore`, `verdict`, `dataLe`, `DistinctRatings`), Lemmas/Store.lean
  (`StoreInv`, `Store.listed`). The helper lemmas live in LucidProofs/Lemmas/Locality.lean.
-/
import LucidModel.Gen.Consts
import LucidProofs.Lemmas.Locality

namespace Lucid

/-- The results are the rendered hits of the listed records, and along the list every earlier hit is "not after"
    every later one in the hit order (score vectors compared lexicographically, larger first).
    Every store, every query, every limit. -/
theorem C07_sorted (S : Sorter) (hS : SorterOK S) (K : Consts) (hK : 1 ≤ K.sortFactor)
    (order : List ScoreType) (st : Store) (q : Text) :
    st.search S K order q =
      (st.listed S K order q).map (fun r => renderWith st.dividers (scoreHit K order q r)) ∧
    (st.listed S K order q).Pairwise
      (fun a b => hitLe (scoreHit K order q a) (scoreHit K order q b) = true) :=
  ⟨search_eq_listed hS order st q, (listed_TopK hS order st q).1⟩

/-- The comparison of two hits is a function of the two records' own `(id, title, rating)` (in fact of title and
    rating) and the query: positions and all other records of the store play no role. -/
theorem C07_order_local (K : Consts) (order : List ScoreType) (q : Text) (a b : Record) :
    hitLe (scoreHit K order q a) (scoreHit K order q b) = dataLe K order q a.data b.data := rfl

/-- Two records `d1`, `d2` with different ratings that are both hits on their own, `d1` not after `d2` in the hit
    order: the store holding just these two (limit ≥ 2) returns `[verdict d1, verdict d2]`, whichever of the two was
    added first. -/
theorem C07_two_store (S : Sorter) (hS : SorterOK S) (K : Consts) (hK : 1 ≤ K.sortFactor) (hP : 1 ≤ K.prepFactor)
    (order : List ScoreType) (hr : ScoreType.rating ∈ order) (limit : Nat) (hl : 2 ≤ limit)
    (dv : List Nat × List Nat) (d1 d2 : Nat × Text × Nat) (q : Text) (hne : d1.2.2 ≠ d2.2.2)
    (h1 : isHit K q d1.2.1 = true) (h2 : isHit K q d2.2.1 = true) (hle : dataLe K order q d1 d2 = true) :
    ∃ res1 res2, verdict K dv q d1 = some res1 ∧ verdict K dv q d2 = some res2 ∧
      (mkStore K limit dv [d1, d2]).search S K order q = [res1, res2] ∧
      (mkStore K limit dv [d2, d1]).search S K order q = [res1, res2] :=
  two_store S hS K hP order limit hl dv d1 d2 q h1 h2 hle
    (dataLe_antisymm K order hr q (show DistinctRatings [d1, d2] by simp [DistinctRatings, hne]))

/-- The relative order of any two hits is the same as when only those two records are in the store, whichever of
    them was added first: if the records `r1`, `r2` (different ratings) are listed in this order by a search on a
    store satisfying the invariant, then their results `res1`, `res2` appear in this order in the result list, are
    the two records' own verdicts, and both two-record stores (`r1` added first, `r2` added first; any limit ≥ 2)
    return exactly `[res1, res2]`. -/
theorem C07_pair_order (S : Sorter) (hS : SorterOK S) (K : Consts) (hK : 1 ≤ K.sortFactor) (hP : 1 ≤ K.prepFactor)
    (order : List ScoreType) (hr : ScoreType.rating ∈ order) (st : Store) (h : StoreInv S K st) (q : Text)
    (r1 r2 : Record) (hsub : [r1, r2].Sublist (st.listed S K order q)) (hne : r1.rating ≠ r2.rating)
    (limit : Nat) (hl : 2 ≤ limit) :
    ∃ res1 res2, [res1, res2].Sublist (st.search S K order q) ∧
      verdict K st.dividers q r1.data = some res1 ∧ verdict K st.dividers q r2.data = some res2 ∧
      (mkStore K limit st.dividers [r1.data, r2.data]).search S K order q = [res1, res2] ∧
      (mkStore K limit st.dividers [r2.data, r1.data]).search S K order q = [res1, res2] := by
  have hm1 : r1 ∈ st.listed S K order q := hsub.subset (by simp)
  have hm2 : r2 ∈ st.listed S K order q := hsub.subset (by simp)
  have hi1 := (listed_isHit hS h q order r1 hm1).2
  have hi2 := (listed_isHit hS h q order r2 hm2).2
  have hle : dataLe K order q r1.data r2.data = true :=
    (List.pairwise_pair (a := r1)).mp ((listed_TopK hS order st q).1.sublist hsub)
  obtain ⟨res1, res2, hv1, hv2, e1, e2⟩ := C07_two_store S hS K hK hP order hr limit hl st.dividers
    r1.data r2.data q hne hi1 hi2 hle
  refine ⟨res1, res2, ?_, hv1, hv2, e1, e2⟩
  have hs := hsub.map (fun r => renderWith st.dividers (scoreHit K order q r))
  rw [← search_eq_listed hS order st q] at hs
  rw [verdict_of_isHit K order st.dividers q r1.data hi1] at hv1
  rw [verdict_of_isHit K order st.dividers q r2.data hi2] at hv2
  rw [← Option.some.inj hv1, ← Option.some.inj hv2]
  exact hs

/-- With pairwise distinct ratings and at most `limit·prepFactor` (source: ten times `limit`) records, adding the
    same records in a different order yields exactly the same answer to every query (with or without words), for
    every sorting routine. Positions are renamed, but a result carries only the id and the highlighted title. -/
theorem C07_perm_invariant (S : Sorter) (hS : SorterOK S) (K : Consts) (hK : 1 ≤ K.sortFactor)
    (order : List ScoreType) (hr : ScoreType.rating ∈ order) (limit : Nat) (dv : List Nat × List Nat)
    (recs recs' : List (Nat × Text × Nat)) (hp : recs.Perm recs') (hd : DistinctRatings recs)
    (hcap : recs.length ≤ limit * K.prepFactor) (q : Text) :
    (mkStore K limit dv recs).search S K order q = (mkStore K limit dv recs').search S K order q := by
  apply search_perm_invariant hS order hr (StoreInv_fresh S K limit dv recs) (StoreInv_fresh S K limit dv recs')
  · simp [fresh_eq]
  · simp [fresh_eq]
  · rwa [mkStore_records_data, mkStore_records_data]
  · rwa [mkStore_records_data]
  · rw [mkStore_records_length]; simpa [fresh_eq] using hcap

/-- The same for any two stores satisfying the invariant (all reachable stores, `C10_invariant`): same limit, same
    markers, the same `(id, title, rating)` records in a different order. -/
theorem C07_perm_invariant_stores (S : Sorter) (hS : SorterOK S) (K : Consts) (hK : 1 ≤ K.sortFactor)
    (order : List ScoreType) (hr : ScoreType.rating ∈ order) (A B : Store) (hA : StoreInv S K A)
    (hB : StoreInv S K B) (hlim : A.limit = B.limit) (hdv : A.dividers = B.dividers)
    (hp : (A.records.map Record.data).Perm (B.records.map Record.data))
    (hd : DistinctRatings (A.records.map Record.data))
    (hcap : A.records.length ≤ A.limit * K.prepFactor) (q : Text) :
    A.search S K order q = B.search S K order q :=
  search_perm_invariant hS order hr hA hB hlim hdv hp hd hcap q

theorem C07_sorted_src (S : Sorter) (hS : SorterOK S) (st : Store) (q : Text) :
    st.search S Gen.srcConsts Gen.srcScoreOrder q =
      (st.listed S Gen.srcConsts Gen.srcScoreOrder q).map
        (fun r => renderWith st.dividers (scoreHit Gen.srcConsts Gen.srcScoreOrder q r)) ∧
    (st.listed S Gen.srcConsts Gen.srcScoreOrder q).Pairwise
      (fun a b => hitLe (scoreHit Gen.srcConsts Gen.srcScoreOrder q a)
        (scoreHit Gen.srcConsts Gen.srcScoreOrder q b) = true) :=
  C07_sorted S hS Gen.srcConsts (by decide) Gen.srcScoreOrder st q

theorem C07_pair_order_src (S : Sorter) (hS : SorterOK S) (st : Store) (h : StoreInv S Gen.srcConsts st) (q : Text)
    (r1 r2 : Record) (hsub : [r1, r2].Sublist (st.listed S Gen.srcConsts Gen.srcScoreOrder q))
    (hne : r1.rating ≠ r2.rating) (limit : Nat) (hl : 2 ≤ limit) :
    ∃ res1 res2, [res1, res2].Sublist (st.search S Gen.srcConsts Gen.srcScoreOrder q) ∧
      verdict Gen.srcConsts st.dividers q r1.data = some res1 ∧
      verdict Gen.srcConsts st.dividers q r2.data = some res2 ∧
      (mkStore Gen.srcConsts limit st.dividers [r1.data, r2.data]).search S Gen.srcConsts Gen.srcScoreOrder q
        = [res1, res2] ∧
      (mkStore Gen.srcConsts limit st.dividers [r2.data, r1.data]).search S Gen.srcConsts Gen.srcScoreOrder q
        = [res1, res2] :=
  C07_pair_order S hS Gen.srcConsts (by decide) (by decide) Gen.srcScoreOrder (by decide) st h q r1 r2 hsub hne
    limit hl

theorem C07_perm_invariant_src (S : Sorter) (hS : SorterOK S) (limit : Nat) (dv : List Nat × List Nat)
    (recs recs' : List (Nat × Text × Nat)) (hp : recs.Perm recs') (hd : DistinctRatings recs)
    (hcap : recs.length ≤ limit * 10) (q : Text) :
    (mkStore Gen.srcConsts limit dv recs).search S Gen.srcConsts Gen.srcScoreOrder q =
      (mkStore Gen.srcConsts limit dv recs').search S Gen.srcConsts Gen.srcScoreOrder q :=
  C07_perm_invariant S hS Gen.srcConsts (by decide) Gen.srcScoreOrder (by decide) limit dv recs recs' hp hd hcap q

/-! ### non-vacuity, and why "pairwise distinct ratings" is needed -/

section Examples
private def exT (c : Nat) : Text :=
  { words := [⟨0, 0, 1, 1, none, true⟩], source := [c], chars := [c], classes := [.any] }
private def exQ : Text := { words := [], source := [], chars := [], classes := [] }
private def exRecs : List (Nat × Text × Nat) := [(7, exT 97, 3), (8, exT 98, 9), (9, exT 97, 5)]
private def exRecs' : List (Nat × Text × Nat) := [(9, exT 97, 5), (7, exT 97, 3), (8, exT 98, 9)]

example : SorterOK mergeSorter := mergeSorter_ok
example : 1 ≤ Gen.srcConsts.sortFactor ∧ 1 ≤ Gen.srcConsts.prepFactor := by decide
example : ScoreType.rating ∈ Gen.srcScoreOrder := by decide
example : exRecs.Perm exRecs' := by decide
example : DistinctRatings exRecs := by unfold DistinctRatings; decide
example : exRecs.length ≤ 2 * 10 := by decide

/-- COUNTEREXAMPLE with a tie: two records with the same title and the same rating (ids 7 and 8). The hit order
    cannot separate them, the (stable, `SorterOK`) insertion sort keeps insertion order, so the answer to the empty
    query depends on which was added first. Hence `DistinctRatings` cannot be dropped from `C07_perm_invariant`
    (nor the rating inequality from `C07_pair_order`). -/
example :
    (mkStore Gen.srcConsts 2 ([91], [93]) [(7, exT 97, 3), (8, exT 97, 3)]).search locInsSorter
        Gen.srcConsts Gen.srcScoreOrder exQ = [⟨7, [97]⟩, ⟨8, [97]⟩] ∧
    (mkStore Gen.srcConsts 2 ([91], [93]) [(8, exT 97, 3), (7, exT 97, 3)]).search locInsSorter
        Gen.srcConsts Gen.srcScoreOrder exQ = [⟨8, [97]⟩, ⟨7, [97]⟩] := by decide +kernel

/-- … whereas with distinct ratings both insertion orders give the same list (an instance of the theorem) -/
example :
    (mkStore Gen.srcConsts 2 ([91], [93]) exRecs).search locInsSorter Gen.srcConsts Gen.srcScoreOrder exQ
      = [⟨8, [98]⟩, ⟨9, [97]⟩] ∧
    (mkStore Gen.srcConsts 2 ([91], [93]) exRecs').search locInsSorter Gen.srcConsts Gen.srcScoreOrder exQ
      = [⟨8, [98]⟩, ⟨9, [97]⟩] := by decide +kernel

end Examples

end Lucid
