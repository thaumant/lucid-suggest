/-
  C18 — the trigram index's candidate list.

  "For a query with at least one word, the index's candidate list contains no duplicates and only positions of
   existing records that share at least one gram (a trigram, or a one- or two-letter word start) with the
   query. If at most 10×size records share a gram, all of them are listed; otherwise exactly 10×size are
   listed, ordered by non-increasing number of shared grams, and no omitted record shares more grams than a
   listed one."

  Setting: `idx` is any index with `IndexInv idx titles`, i.e. (`buildIndex_inv`, `StoreIndexInv`) any index
  built by a sequence of adds of the titles `titles` at positions 0, 1, 2, … (duplicates, empty titles,
  one-letter words included); `q` any query text; `size` any natural number (0 included); `S` any sorting
  subroutine returning a sorted permutation; `K` any constants with buffer factor ≥ 1.
  `sharedCount titles q ix` = number of distinct grams of `q` occurring in `titles[ix]`.
  All statements except `C18_empty_query` hold for queries without words too (the list is then empty and
  no record shares a gram), so the hypothesis `q.words ≠ []` of the property text is not needed.

  Statements only; helper lemmas live in LucidProofs/Lemmas/Index.lean.
-/
import LucidModel.Gen.Consts
import LucidProofs.Lemmas.Index

namespace Lucid

/-- The candidate list is a bounded top-`size·prepFactor` selection (relation `TopK`, comparator "more shared
    grams first") of the list of `(position, count)` pairs with a positive count, and that list is: for every
    record position in ascending order, the number of distinct query grams occurring in the record's title,
    kept if positive. -/
theorem C18_topk (S : Sorter) (hS : SorterOK S) (K : Consts) (hK : 1 ≤ K.sortFactor)
    (idx : Index) (titles : List Text) (hI : IndexInv idx titles) (q : Text) (size : Nat) :
    (∃ sel, TopK countLe (size * K.prepFactor) (positiveCounts idx q) sel ∧
        idx.prepare S K q size = sel.map (·.1)) ∧
    positiveCounts idx q
      = ((List.range titles.length).map (fun ix => (ix, sharedCount titles q ix))).filter
          (fun p => decide (p.2 > 0)) :=
  ⟨hI.prepare_TopK_counts S hS K q size, hI.positiveCounts_eq q⟩

/-- The candidate list contains no position twice. -/
theorem C18_nodup (S : Sorter) (hS : SorterOK S) (K : Consts) (hK : 1 ≤ K.sortFactor)
    (idx : Index) (titles : List Text) (hI : IndexInv idx titles) (q : Text) (size : Nat) :
    (idx.prepare S K q size).Nodup := by
  simpa using (hI.prepare_TopK S hS K q size).map_nodup id
    (by rw [List.map_id]; exact List.nodup_range.sublist List.filter_sublist)

/-- Every listed position is the position of an existing record, and that record shares at least one gram
    with the query. -/
theorem C18_in_range_and_shares (S : Sorter) (hS : SorterOK S) (K : Consts) (hK : 1 ≤ K.sortFactor)
    (idx : Index) (titles : List Text) (hI : IndexInv idx titles) (q : Text) (size : Nat) :
    ∀ ix ∈ idx.prepare S K q size, ix < titles.length ∧ 0 < sharedCount titles q ix :=
  fun _ h => mem_sharingPositions.mp ((hI.prepare_TopK S hS K q size).mem_of_mem h)

/-- If at most `size·prepFactor` records share a gram with the query, every one of them is listed. -/
theorem C18_all_listed_below_cap (S : Sorter) (hS : SorterOK S) (K : Consts) (hK : 1 ≤ K.sortFactor)
    (idx : Index) (titles : List Text) (hI : IndexInv idx titles) (q : Text) (size : Nat)
    (hcap : (sharingPositions titles q).length ≤ size * K.prepFactor) :
    ∀ ix, ix < titles.length → 0 < sharedCount titles q ix → ix ∈ idx.prepare S K q size :=
  fun _ h1 h2 => ((hI.prepare_TopK S hS K q size).perm_of_length_le hcap).symm.subset
    (mem_sharingPositions.mpr ⟨h1, h2⟩)

/-- If more than `size·prepFactor` records share a gram with the query, exactly `size·prepFactor` positions
    are listed. -/
theorem C18_exactly_cap_above (S : Sorter) (hS : SorterOK S) (K : Consts) (hK : 1 ≤ K.sortFactor)
    (idx : Index) (titles : List Text) (hI : IndexInv idx titles) (q : Text) (size : Nat)
    (hcap : size * K.prepFactor < (sharingPositions titles q).length) :
    (idx.prepare S K q size).length = size * K.prepFactor :=
  (hI.prepare_TopK S hS K q size).length_of_le (Nat.le_of_lt hcap)

/-- In every case the number of listed positions is the smaller of `size·prepFactor` and the number of records
    sharing a gram with the query. -/
theorem C18_length (S : Sorter) (hS : SorterOK S) (K : Consts) (hK : 1 ≤ K.sortFactor)
    (idx : Index) (titles : List Text) (hI : IndexInv idx titles) (q : Text) (size : Nat) :
    (idx.prepare S K q size).length = min (size * K.prepFactor) (sharingPositions titles q).length :=
  (hI.prepare_TopK S hS K q size).2.1

/-- Along the candidate list the number of shared grams never increases: an earlier position shares at least
    as many grams with the query as any later one. -/
theorem C18_sorted_by_count (S : Sorter) (hS : SorterOK S) (K : Consts) (hK : 1 ≤ K.sortFactor)
    (idx : Index) (titles : List Text) (hI : IndexInv idx titles) (q : Text) (size : Nat) :
    (idx.prepare S K q size).Pairwise (fun a b => sharedCount titles q b ≤ sharedCount titles q a) :=
  (hI.prepare_TopK S hS K q size).1.imp (by simp)

/-- No omitted record that shares a gram with the query shares more grams than a listed one. -/
theorem C18_omitted_not_better (S : Sorter) (hS : SorterOK S) (K : Consts) (hK : 1 ≤ K.sortFactor)
    (idx : Index) (titles : List Text) (hI : IndexInv idx titles) (q : Text) (size : Nat) :
    ∀ ix, ix < titles.length → ix ∉ idx.prepare S K q size →
      ∀ jx ∈ idx.prepare S K q size, sharedCount titles q ix ≤ sharedCount titles q jx := by
  intro ix h1 hn jx hj
  by_cases h2 : 0 < sharedCount titles q ix
  · simpa using (hI.prepare_TopK S hS K q size).le_of_not_mem (mem_sharingPositions.mpr ⟨h1, h2⟩) hn hj
  · omega

/-- With `size = 0` the candidate list is empty (whatever the index, sorter and constants). -/
theorem C18_size_zero (S : Sorter) (K : Consts) (idx : Index) (q : Text) :
    idx.prepare S K q 0 = [] := by
  unfold Index.prepare limitSort
  split <;> simp

/-- For a query without words the index returns the empty list (the store then falls back to the
    top-rated records). -/
theorem C18_empty_query (S : Sorter) (K : Consts) (idx : Index) (q : Text) (size : Nat) (hq : q.words = []) :
    idx.prepare S K q size = [] := by
  simp [Index.prepare, hq]

/-- Used by C05 ("no unrelated hits"): every candidate position is the position of an existing record whose
    title has at least one gram in common with the query. -/
theorem C05_candidates_related (S : Sorter) (hS : SorterOK S) (K : Consts) (hK : 1 ≤ K.sortFactor)
    (idx : Index) (titles : List Text) (hI : IndexInv idx titles) (q : Text) (size : Nat) :
    ∀ ix ∈ idx.prepare S K q size, ∃ h : ix < titles.length,
      ∃ g, g ∈ collectGrams q ∧ g ∈ collectGrams titles[ix] := by
  intro ix hix
  obtain ⟨h1, h2⟩ := C18_in_range_and_shares S hS K hK idx titles hI q size ix hix
  exact ⟨h1, sharesGram_iff.mp ((sharedCount_pos_iff_sharesGram h1).mp h2)⟩

/-- For every store reachable from `Store.new` by `add`, `clear`, `setLimit`, `setDividers` and searches
    (`StoreIndexInv_reachable`, from `StoreInv.indexInv`), the C18 statements hold with
    `idx = st.index` and `titles` = the titles of the records in position order. -/
theorem C18_store_inv (st : Store) (h : StoreIndexInv st) : IndexInv st.index (st.records.map (·.title)) := h.2

/-! ### instances at the constants generated from the source (buffer factor 2, cap `10·size`) -/

theorem C18_topk_src (S : Sorter) (hS : SorterOK S)
    (idx : Index) (titles : List Text) (hI : IndexInv idx titles) (q : Text) (size : Nat) :
    (∃ sel, TopK countLe (size * 10) (positiveCounts idx q) sel ∧
        idx.prepare S Gen.srcConsts q size = sel.map (·.1)) ∧
    positiveCounts idx q
      = ((List.range titles.length).map (fun ix => (ix, sharedCount titles q ix))).filter
          (fun p => decide (p.2 > 0)) :=
  C18_topk S hS Gen.srcConsts (by decide) idx titles hI q size

theorem C18_nodup_src (S : Sorter) (hS : SorterOK S)
    (idx : Index) (titles : List Text) (hI : IndexInv idx titles) (q : Text) (size : Nat) :
    (idx.prepare S Gen.srcConsts q size).Nodup :=
  C18_nodup S hS Gen.srcConsts (by decide) idx titles hI q size

theorem C18_in_range_and_shares_src (S : Sorter) (hS : SorterOK S)
    (idx : Index) (titles : List Text) (hI : IndexInv idx titles) (q : Text) (size : Nat) :
    ∀ ix ∈ idx.prepare S Gen.srcConsts q size, ix < titles.length ∧ 0 < sharedCount titles q ix :=
  C18_in_range_and_shares S hS Gen.srcConsts (by decide) idx titles hI q size

theorem C18_all_listed_below_cap_src (S : Sorter) (hS : SorterOK S)
    (idx : Index) (titles : List Text) (hI : IndexInv idx titles) (q : Text) (size : Nat)
    (hcap : (sharingPositions titles q).length ≤ size * 10) :
    ∀ ix, ix < titles.length → 0 < sharedCount titles q ix → ix ∈ idx.prepare S Gen.srcConsts q size :=
  C18_all_listed_below_cap S hS Gen.srcConsts (by decide) idx titles hI q size hcap

theorem C18_exactly_cap_above_src (S : Sorter) (hS : SorterOK S)
    (idx : Index) (titles : List Text) (hI : IndexInv idx titles) (q : Text) (size : Nat)
    (hcap : size * 10 < (sharingPositions titles q).length) :
    (idx.prepare S Gen.srcConsts q size).length = size * 10 :=
  C18_exactly_cap_above S hS Gen.srcConsts (by decide) idx titles hI q size hcap

theorem C18_length_src (S : Sorter) (hS : SorterOK S)
    (idx : Index) (titles : List Text) (hI : IndexInv idx titles) (q : Text) (size : Nat) :
    (idx.prepare S Gen.srcConsts q size).length = min (size * 10) (sharingPositions titles q).length :=
  C18_length S hS Gen.srcConsts (by decide) idx titles hI q size

theorem C18_sorted_by_count_src (S : Sorter) (hS : SorterOK S)
    (idx : Index) (titles : List Text) (hI : IndexInv idx titles) (q : Text) (size : Nat) :
    (idx.prepare S Gen.srcConsts q size).Pairwise
      (fun a b => sharedCount titles q b ≤ sharedCount titles q a) :=
  C18_sorted_by_count S hS Gen.srcConsts (by decide) idx titles hI q size

theorem C18_omitted_not_better_src (S : Sorter) (hS : SorterOK S)
    (idx : Index) (titles : List Text) (hI : IndexInv idx titles) (q : Text) (size : Nat) :
    ∀ ix, ix < titles.length → ix ∉ idx.prepare S Gen.srcConsts q size →
      ∀ jx ∈ idx.prepare S Gen.srcConsts q size, sharedCount titles q ix ≤ sharedCount titles q jx :=
  C18_omitted_not_better S hS Gen.srcConsts (by decide) idx titles hI q size

theorem C05_candidates_related_src (S : Sorter) (hS : SorterOK S)
    (idx : Index) (titles : List Text) (hI : IndexInv idx titles) (q : Text) (size : Nat) :
    ∀ ix ∈ idx.prepare S Gen.srcConsts q size, ∃ h : ix < titles.length,
      ∃ g, g ∈ collectGrams q ∧ g ∈ collectGrams titles[ix] :=
  C05_candidates_related S hS Gen.srcConsts (by decide) idx titles hI q size

section Examples

private def oneWord (cs : List Nat) : Text :=
  { words := [{ offset := 0, lo := 0, hi := cs.length, stem := cs.length, pos := none, fin := true }],
    source := cs, chars := cs, classes := [] }

private def exTitles : List Text := [oneWord [109, 101, 116, 97, 108], oneWord [], oneWord [109], oneWord [109, 101, 116, 97, 108]]
private def exQuery : Text := oneWord [109, 101, 116]

/-- the invariant holds for the index built from four titles ("metal", an empty title, the one-letter
    title "m", and "metal" again) -/
example : IndexInv (buildIndex exTitles) exTitles := buildIndex_inv _

/-- … and for the index of a store after two adds -/
example : StoreIndexInv (((Store.new Gen.srcConsts).add 10 (oneWord [109, 101, 116, 97, 108]) 1).add 20 (oneWord [109]) 2) :=
  ((StoreIndexInv.new _).add _ _ _).add _ _ _

/-- the query "met" (three grams: `m`, `me`, `met`) has words, shares 3 grams with both "metal" records,
    1 with "m" and 0 with the empty title -/
example : exQuery.words ≠ [] := by decide
example : collectGrams exQuery = [(109, 0, 0), (109, 101, 0), (109, 101, 116)] := by decide
example : (List.range 4).map (sharedCount exTitles exQuery) = [3, 0, 1, 3] := by decide +kernel
example : positiveCounts (buildIndex exTitles) exQuery = [(0, 3), (2, 1), (3, 3)] := by decide +kernel
example : sharingPositions exTitles exQuery = [0, 2, 3] := by decide +kernel

/-- the generated constants meet the numeric hypothesis; the cap is `10·size` -/
example : 1 ≤ Gen.srcConsts.sortFactor := by decide
example : Gen.srcConsts.prepFactor = 10 := by decide

end Examples

end Lucid
