/-
  C02 / C09 at the source constants with the `WordMatchOK` hypothesis discharged
  (`Lemmas/PairOK.lean: wordMatchOK`): only well-formedness of the tokenised texts (`TextOK`, which C15
  proves for every tokenised text) remains as a hypothesis.
-/
import LucidProofs.C02
import LucidProofs.C05

namespace Lucid

theorem hitsWF_src (st : Store) (q : Text) (hr : ∀ r ∈ st.records, TextOK r.title) (hq : TextOK q) :
    HitsWF Gen.srcConsts st q :=
  hitsWF_of_textOK Gen.srcConsts costsOK_src thresholdOK_src st q hr hq

/-- **C02 (title).** For every store whose titles are well-formed tokenised texts, every well-formed query,
    every marker pair and sorting oracle: each result carries the id of a stored record and its title is the
    NUL-stripped decoration of that record's source by word-aligned spans. -/
theorem C02_title_full_src {S : Sorter} (hS : SorterOK S) (st : Store) (q : Text)
    (hr : ∀ r ∈ st.records, TextOK r.title) (hq : TextOK q) :
    ∀ res ∈ st.search S Gen.srcConsts Gen.srcScoreOrder q, ∃ r ∈ st.records, ∃ spans, res.id = r.id ∧
      SpansOK r.title spans ∧ res.title = stripNul (decorate r.title.source spans st.dividers.1 st.dividers.2) :=
  C02_title_is_decorated_source_src hS st q (hitsWF_src st q hr hq)

/-- **C02 (markers).** Changing the marker strings changes nothing but the markers. -/
theorem C02_markers_full_src {S : Sorter} (hS : SorterOK S) (st : Store) (q : Text)
    (hr : ∀ r ∈ st.records, TextOK r.title) (hq : TextOK q) :
    ∃ hits : List (Hit × List (Nat × Nat)),
      (∀ p ∈ hits, ∃ r ∈ st.records, p.1.id = r.id ∧ p.1.title = r.title ∧ SpansFrom 0 p.2 ∧
          SpansIn (stripNul r.title.source).length p.2) ∧
      ∀ dl dr : List Nat,
        (st.setDividers dl dr).search S Gen.srcConsts Gen.srcScoreOrder q =
          hits.map (fun p => { id := p.1.id,
                               title := decorate (stripNul p.1.title.source) p.2 (stripNul dl) (stripNul dr) }) ∧
        ∀ p ∈ hits, unmark (stripNul dl).length (stripNul dr).length p.2
            (decorate (stripNul p.1.title.source) p.2 (stripNul dl) (stripNul dr)) = stripNul p.1.title.source :=
  C02_markers_only_change_markers hS (by decide) Gen.srcScoreOrder st q (hitsWF_src st q hr hq)

/-- **C09 (spans).** Every hit's spans are sorted, disjoint, non-empty, each starts at the first character of a
    distinct title word and ends inside it. -/
theorem C09_spans_full_src (st : Store) (q : Text)
    (hr : ∀ r ∈ st.records, TextOK r.title) (hq : TextOK q) (ixs : List Nat) :
    ∀ h ∈ st.hitsOf Gen.srcConsts Gen.srcScoreOrder q ixs, SpansOK h.title (hitSpans h) :=
  C09_spans_ok (hitsWF_src st q hr hq) ixs

/-- **C09 (balance).** The rendered title is a decoration: markers alternate and never nest. -/
theorem C09_balanced_full_src (st : Store) (q : Text)
    (hr : ∀ r ∈ st.records, TextOK r.title) (hq : TextOK q) (ixs : List Nat) :
    ∀ h ∈ st.hitsOf Gen.srcConsts Gen.srcScoreOrder q ixs,
      (st.render h).title = stripNul (decorate h.title.source (hitSpans h) st.dividers.1 st.dividers.2) ∧
      (st.render h).title = decorate (stripNul h.title.source) (nulSpans h.title.source (hitSpans h))
                              (stripNul st.dividers.1) (stripNul st.dividers.2) ∧
      SpansFrom 0 (hitSpans h) ∧ SpansFrom 0 (nulSpans h.title.source (hitSpans h)) :=
  C09_markup_balanced (hitsWF_src st q hr hq) ixs

/-- **C09 (presence).** A hit for a query with at least one word has at least one highlighted span. -/
theorem C09_some_span_full_src (st : Store) (q : Text)
    (hr : ∀ r ∈ st.records, TextOK r.title) (hq : TextOK q) (hw : q.words ≠ []) (ixs : List Nat) :
    ∀ h ∈ st.hitsOf Gen.srcConsts Gen.srcScoreOrder q ixs, h.rmatches ≠ [] ∧ hitSpans h ≠ [] :=
  C09_some_span_for_wordy_query (hitsWF_src st q hr hq) hw ixs

end Lucid
