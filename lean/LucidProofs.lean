/-
  Every proof module, once. First the lemma modules, cluster by cluster (base layer, selection, distance, tokenizer,
  std Unicode tables, word_match, text_match, store, registry/API), each after the lemma modules it imports. Where a
  cluster reaches into a later one, the module concerned stands where its imports allow: `Index` (store cluster)
  before `Edit1`, which speaks of trigrams; `NormVariants` and `Canon` (tokenizer) after `QueryCongr`; `StableText`,
  `StableText2` (tokenizer) and `ApiLift` (API) last, since they build on the property files C15, C03b and C20.
  Then the property files in numeric order; they import one another as their proofs need.
-/
import LucidProofs.Lemmas.ListFacts
import LucidProofs.Lemmas.Facts
import LucidProofs.Lemmas.BoundedOracle
import LucidProofs.Lemmas.MatchFacts
import LucidProofs.Lemmas.MatchBase

import LucidProofs.Lemmas.LimitSort
import LucidProofs.Lemmas.Sorter
import LucidProofs.Lemmas.TopK
import LucidProofs.Lemmas.Orders

import LucidProofs.Lemmas.DamlevSpec
import LucidProofs.Lemmas.DamlevBounds
import LucidProofs.Lemmas.Folds
import LucidProofs.Lemmas.DamlevRefine
import LucidProofs.Lemmas.DamlevChecked
import LucidProofs.Lemmas.EditScripts
import LucidProofs.Lemmas.Index
import LucidProofs.Lemmas.Edit1
import LucidProofs.Lemmas.Jaccard

import LucidProofs.Lemmas.Normalize
import LucidProofs.Lemmas.Tokenize
import LucidProofs.Lemmas.SafeTok
import LucidProofs.Lemmas.TableClosure

import LucidProofs.Lemmas.Ranges
import LucidProofs.Lemmas.UnicodeSrc

import LucidProofs.Lemmas.WordMatchLoop
import LucidProofs.Lemmas.WordMatchSpec
import LucidProofs.Lemmas.PairOK
import LucidProofs.Lemmas.Gates
import LucidProofs.Lemmas.TypoGates
import LucidProofs.Lemmas.JoinGates

import LucidProofs.Lemmas.TextMatchScan
import LucidProofs.Lemmas.Highlight
import LucidProofs.Lemmas.TextMatchShape
import LucidProofs.Lemmas.SafeMatch
import LucidProofs.Lemmas.RankShapes
import LucidProofs.Lemmas.QueryCongr

import LucidProofs.Lemmas.NormVariants
import LucidProofs.Lemmas.Canon

import LucidProofs.Lemmas.SearchGlue
import LucidProofs.Lemmas.Store
import LucidProofs.Lemmas.Candidates
import LucidProofs.Lemmas.Locality

import LucidProofs.Lemmas.Registry

import LucidProofs.Lemmas.StableText
import LucidProofs.Lemmas.StableText2
import LucidProofs.Lemmas.ApiLift

import LucidProofs.C01
import LucidProofs.C02
import LucidProofs.C02b
import LucidProofs.C03
import LucidProofs.C03b
import LucidProofs.C04
import LucidProofs.C05
import LucidProofs.C05b
import LucidProofs.C06
import LucidProofs.C06b
import LucidProofs.C07
import LucidProofs.C08
import LucidProofs.C08b
import LucidProofs.C09
import LucidProofs.C10
import LucidProofs.C11
import LucidProofs.C11b
import LucidProofs.C11c
import LucidProofs.C11d
import LucidProofs.C12
import LucidProofs.C12b
import LucidProofs.C12c
import LucidProofs.C13
import LucidProofs.C13b
import LucidProofs.C14
import LucidProofs.C14b
import LucidProofs.C15
import LucidProofs.C15std
import LucidProofs.C16
import LucidProofs.C16b
import LucidProofs.C17
import LucidProofs.C18
import LucidProofs.C19
import LucidProofs.C20
import LucidProofs.API
